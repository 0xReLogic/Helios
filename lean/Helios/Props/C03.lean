import Helios.Props.C02
import Helios.Props.C08
-- not used below: `bin/check C03` audits C13's theorems through this import
import Helios.Props.C13
import Helios.Lemmas.RateLimiter
/-
C03 — fault containment: what the model can carry of "no fault can wedge or permanently degrade the proxy".
 * From ANY balancer state a request is forwarded to a healthy backend as soon as the three gates let
   it through (`recovers`), and each gate opens by the passage of time alone: the limiter
   (`rlGate_admits`), the breaker (`breaker_gate_opens`, from C08's invariant), health (windows end
   by themselves, C04, and then no strategy answers 503, C02).
 * Faults cannot skew the books: C13's `conserved_run`; gauges: `gauges_zero_when_idle`, given `GaugeOK`
   (which holds along every history: C13G).
 * No fault sequence can deadlock the mutexes: C12's `lockorder_sound` + regenerated facts.
Left to the standard library: that a faulted request ends within the configured timeouts; that Helios
sets every one of them to a non-zero value is a regenerated fact (`timeouts_set`).
-/
namespace Helios.LB

/-- when `CB.begin` admits at `now` (an open state past its timeout turns half-open and then admits
unless `maxRequests = 0`) -/
def cbAdmits (c : CB.Cfg) (s : CB.State) (now : Nat) : Prop :=
  s.st = .closed ∨ (s.st = .open_ ∧ s.nextAttempt < now ∧ c.maxRequests ≠ 0) ∨
  (s.st = .halfOpen ∧ s.requestCount < c.maxRequests)

theorem cbGate_admits (y : Sys) (now : Nat)
    (h : ∀ c s, y.cb = some (c, s) → cbAdmits c s now) :
    ∃ g, (cbGate y now).2 = .inr g := by
  rw [cbGate]
  cases hcb : y.cb with
  | none => exact ⟨none, rfl⟩
  | some p =>
    obtain ⟨c, s⟩ := p
    rcases h c s hcb with h1 | ⟨h1, h2, h3⟩ | ⟨h1, h2⟩
    · simp [CB.begin, h1]
    · simp [CB.begin, h1, h2, h3]
    · simp [CB.begin, h1, Nat.not_le.mpr h2]

/-- **Recovery.** From an arbitrary balancer state `y`, a request whose client has a token, that the
breaker admits and for which some backend is outside its unhealthy window is forwarded to such a
backend. (`{ y with total := y.total + 1 }` is the state `begin` hands to the limiter gate; the
breaker gate sees that gate's result.) -/
theorem recovers (y : Sys) (tid now : Nat) (r : Addr.Req) (hg : Guard y.strat)
    (hrl : (rlGate { y with total := y.total + 1 } now r).2 = true)
    (hcb : ∀ c s, (rlGate { y with total := y.total + 1 } now r).1.cb = some (c, s) → cbAdmits c s now)
    (o : Obj) (ho : o ∈ y.pool) (hh : o.b.inWindow now = false) :
    ∃ name, (begin y tid now r).2 = .fwd name ∧
      ∃ o' ∈ y.pool, o'.b.name = name ∧ o'.b.inWindow now = false := by
  obtain ⟨g, hg'⟩ := cbGate_admits _ now hcb
  have hb : begin y tid now r = dispatch (cbGate (rlGate { y with total := y.total + 1 } now r).1 now).1 g tid now r := by
    simp only [begin, hrl, Bool.not_true, Bool.false_eq_true, if_false, hg']
  rcases dispatch_result (cbGate (rlGate { y with total := y.total + 1 } now r).1 now).1 g tid now r with
    ⟨hn, _⟩ | ⟨o', _, hf, _⟩
  · exact absurd (hb ▸ hn) (no_503_while_healthy y tid now r hg o ho hh)
  · exact ⟨o'.b.name, hb ▸ hf, dispatch_sound y tid now r _ (hb ▸ hf)⟩

/-- **The limiter gate opens by itself.** A client with no bucket yet, or whose bucket was last touched
a refill period ago, is admitted whatever the bucket holds, for every `max_tokens ≥ 1`. -/
theorem rlGate_admits (y : Sys) (now : Nat) (r : Addr.Req)
    (h : ∀ c m, y.rl = some (c, m) → 1 ≤ c.max ∧ 0 < c.refill ∧
      (m (Bytes.hex (Addr.clientIP r)) = none ∨
       ∃ b, m (Bytes.hex (Addr.clientIP r)) = some b ∧ b.last + c.refill ≤ now)) :
    (rlGate y now r).2 = true := by
  rw [rlGate]
  cases hrl : y.rl with
  | none => rfl
  | some p =>
    obtain ⟨c, m⟩ := p
    obtain ⟨hmax, hR, hb⟩ := h c m hrl
    -- one idle period makes one token available
    have ha : 0 < RL.avail c (m (Bytes.hex (Addr.clientIP r))) now := by
      rcases hb with hb | ⟨b, hb, hidle⟩ <;> rw [hb]
      · exact hmax
      · exact Nat.le_trans (Nat.le_min.2 ⟨Nat.le_refl 1, hmax⟩) (RL.avail_idle c hR b now 1 (by rwa [Nat.one_mul]))
    simp only [RL.step, RL.allow1_admits c _ now ha, beq_self_eq_true]

/-- **Recovery by the passage of time alone.** `recovers` with the limiter's hypothesis replaced by
that of `rlGate_admits` and the breaker's by `cbAdmits` (which `breaker_gate_opens` gives once nothing
is in flight and the open timeout has elapsed). -/
theorem recovers_by_time (y : Sys) (tid now : Nat) (r : Addr.Req) (hg : Guard y.strat)
    (hrl : ∀ c m, y.rl = some (c, m) → 1 ≤ c.max ∧ 0 < c.refill ∧
      (m (Bytes.hex (Addr.clientIP r)) = none ∨
       ∃ b, m (Bytes.hex (Addr.clientIP r)) = some b ∧ b.last + c.refill ≤ now))
    (hcb : ∀ c s, y.cb = some (c, s) → cbAdmits c s now)
    (o : Obj) (ho : o ∈ y.pool) (hh : o.b.inWindow now = false) :
    ∃ name, (begin y tid now r).2 = .fwd name ∧
      ∃ o' ∈ y.pool, o'.b.name = name ∧ o'.b.inWindow now = false := by
  refine recovers y tid now r hg (rlGate_admits _ now r hrl) (fun c s hcs => hcb c s ?_) o ho hh
  obtain ⟨rl, e⟩ := rlGate_frame { y with total := y.total + 1 } now r
  rwa [e] at hcs

end Helios.LB

namespace Helios.CB

/-- **The breaker gate opens by itself.** In every reachable breaker state with nothing in flight the
next request is admitted once the open timeout has elapsed, for `1 ≤ success_threshold ≤ max_requests`
(what validation guarantees, C18). -/
theorem breaker_gate_opens (c : Cfg) (h1 : 1 ≤ c.successThreshold) (h2 : c.successThreshold ≤ c.maxRequests)
    (y : Sys) (hinv : Inv c y) (hq : y.inflight = []) (now : Nat)
    (hopen : y.s.st = .open_ → y.s.nextAttempt < now) :
    Helios.LB.cbAdmits c y.s now := by
  cases hst : y.s.st with
  | closed => exact .inl hst
  | open_ => exact .inr (.inl ⟨hst, hopen hst, Nat.ne_of_gt (Nat.le_trans h1 h2)⟩)
  | halfOpen =>
    obtain ⟨e, hlt⟩ := hinv.quiet hq hst
    exact .inr (.inr ⟨hst, e ▸ Nat.lt_of_lt_of_le hlt h2⟩)

end Helios.CB
