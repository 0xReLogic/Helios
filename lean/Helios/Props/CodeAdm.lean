import Helios.Lemmas.Go
import Helios.Props.C10
/-
Tie C for the admin API's address filter (C10): `IPFilter.IsAllowed`. The parsed forms of the peer address and of the
list entries are handed in (`net.ParseIP`, `net.ParseCIDR`); `(*net.IPNet).Contains` stands as the model's
`Net.contains`, tied to the Go function by the differential check. The order of the tests is Helios' own and is covered.
-/
namespace Helios.CodeTie
open Helios.Generated

theorem deny_loop (f : Code.IPFilter) (ip : Admin.IP) (l : List Admin.Net) (j : Int) :
    Code.IsAllowed_range1 f (some ip) l j = if l.any (·.contains ip) then some (f, false) else none :=
  range_any _ _ _ (fun _ => rfl) (fun _ _ _ => rfl) l j

theorem allow_loop (f : Code.IPFilter) (ip : Admin.IP) (l : List Admin.Net) (j : Int) :
    Code.IsAllowed_range2 f (some ip) l j = if l.any (·.contains ip) then some (f, true) else none :=
  range_any _ _ _ (fun _ => rfl) (fun _ _ _ => rfl) l j

/-- **`IPFilter.IsAllowed`, as written, is the model's `isAllowed`** (`none` = the peer address did not parse); the text
of the address plays no part beyond its parse -/
theorem IsAllowed_refines (f : Code.IPFilter) (text : Bytes) (peer : Option Admin.IP) :
    Code.IsAllowed f text peer = (f, Admin.isAllowed f.allowList f.denyList peer) := by
  unfold Code.IsAllowed Admin.isAllowed
  cases peer with
  | none => simp
  | some ip =>
    simp only [Option.isNone_some, Bool.false_eq_true, if_false, deny_loop, allow_loop, len_beq_zero]
    cases f.denyList.any (·.contains ip) <;> cases f.allowList.isEmpty <;>
      cases f.allowList.any (·.contains ip) <;> rfl

theorem IsAllowed_deny_wins (f : Code.IPFilter) (text : Bytes) (ip : Admin.IP) (n : Admin.Net)
    (hn : n ∈ f.denyList) (hc : n.contains ip = true) : (Code.IsAllowed f text (some ip)).2 = false := by
  rw [IsAllowed_refines]; exact Admin.isAllowed_deny hn hc

theorem IsAllowed_unparsable (f : Code.IPFilter) (text : Bytes) : (Code.IsAllowed f text none).2 = false := by
  rw [IsAllowed_refines]; rfl

example : (Code.IsAllowed ⟨[⟨.v4 167772160, 8⟩], [⟨.v4 167772165, 32⟩]⟩ [] (some (.v4 167772165))).2 = false := by decide
example : (Code.IsAllowed ⟨[⟨.v4 167772160, 8⟩], [⟨.v4 167772165, 32⟩]⟩ [] (some (.v4 167772166))).2 = true := by decide
example : (Code.IsAllowed ⟨[], [⟨.v4 167772165, 32⟩]⟩ [] (some (.v6 1))).2 = true := by decide

theorem translation_clean_adm :
    ["IsAllowed"].all (fun f => Code.translated.contains f) = true ∧
    (Code.translationProblems.filter (fun p => ["IsAllowed"].contains p.1)) = [] := by
  decide +kernel

end Helios.CodeTie
