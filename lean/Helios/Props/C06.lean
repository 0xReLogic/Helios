import Helios.Lemmas.Addr
import Helios.Lemmas.Strategy
/-
C06 — Client affinity (ip_hash) and minimal remapping (ip_hash_consistent).
-/
namespace Helios.LB
open Helios.Hash Helios.Addr

/-- **Jump hash range**: for every 64-bit key and every pool size `n ≥ 1` the bucket is in `[0,n)`. -/
theorem jump_range' (key : UInt64) (n : Nat) (hn : 1 ≤ n) :
    0 ≤ jumpHash key n ∧ jumpHash key n < n := jump_range key n hn

/-- **Jump hash monotonicity**, all 2^64 keys, all sizes: growing the pool by one bucket either keeps a
key where it is or moves it to the new bucket. -/
theorem jump_monotone' (key : UInt64) (n : Nat) :
    jumpHash key (n+1) = jumpHash key n ∨ jumpHash key (n+1) = n := jump_monotone key n

/-- **No int64 overflow in the Go loop**: while `j < n ≤ 2^31` the next `j` computed is at
most `2^62`, and the divisor `(key>>33)+1` is in `[1, 2^31]` — so the unbounded `Int`
arithmetic of the model coincides with Go's `int64`. -/
theorem jump_no_overflow (key : UInt64) (j n : Int) (h0 : 0 ≤ j) (hj : j < n) (hn : n ≤ 2147483648) :
    0 ≤ (j + 1) * quo key ∧ (j + 1) * quo key ≤ 4611686018427387904 ∧
    1 ≤ (key >>> 33).toNat + 1 ∧ (key >>> 33).toNat + 1 ≤ 2147483648 := by
  have hq : 0 ≤ quo key := Int.le_of_lt (quo_pos key)
  exact ⟨Int.mul_nonneg (Int.le_add_one h0) hq,
    Int.mul_le_mul (Int.le_trans (Int.add_one_le_of_lt hj) hn) (quo_le key) hq (by decide),
    Nat.succ_pos _, shift_lt key⟩

/-- **Affinity**: the choice of both hash strategies is a function of the attributed client address
and the eligible list only: nothing else of the request, of the pool or of time enters. -/
theorem affinity (p1 p2 : List Backend) (t1 t2 : Nat) (r1 r2 : Req)
    (hk : strategyKey r1 = strategyKey r2) (he : eligibleIdx p1 t1 = eligibleIdx p2 t2) :
    ipHashPick p1 t1 (strategyKey r1) = ipHashPick p2 t2 (strategyKey r2) ∧
    ipHashCPick p1 t1 (strategyKey r1) = ipHashCPick p2 t2 (strategyKey r2) := by
  simp only [ipHashPick, ipHashCPick, hk, he, and_self]

/-- affinity is not disturbed by other clients' requests: neither hash strategy changes
its own state -/
theorem hash_stateless (s : Strat) (now : Nat) (key : Bytes)
    (hk : s.kind = .iphash ∨ s.kind = .iphashc) : (s.next now key).1 = s := by
  rcases hk with h | h <;> simp [Strat.next, h]

/-- source port independence: with no forwarding headers the key of `host:port` is that of `host` -/
theorem key_ignores_port (h p1 p2 : Bytes)
    (h1 : Bytes.colon ∉ h) (h2 : Bytes.lbrack ∉ h) (h3 : Bytes.rbrack ∉ h)
    (a1 : Bytes.colon ∉ p1) (a2 : Bytes.lbrack ∉ p1) (a3 : Bytes.rbrack ∉ p1)
    (b1 : Bytes.colon ∉ p2) (b2 : Bytes.lbrack ∉ p2) (b3 : Bytes.rbrack ∉ p2) :
    strategyKey { xff := [], xri := [], remote := h ++ Bytes.colon :: p1 } =
    strategyKey { xff := [], xri := [], remote := h ++ Bytes.colon :: p2 } := by
  simp only [strategyKey, ne_eq, not_true_eq_false, if_false,
    splitHost_plain h p1 h1 h2 h3 a1 a2 a3, splitHost_plain h p2 h1 h2 h3 b1 b2 b3]

/-- **Validity of the choice**: a chosen index designates an eligible backend of the pool, and a
backend is chosen whenever one is eligible. -/
theorem choice_valid (pool : List Backend) (now : Nat) (key : Bytes) :
    (∀ i, ipHashPick pool now key = some i → ∃ b, pool[i]? = some b ∧ b.eligible now = true) ∧
    (∀ i, ipHashCPick pool now key = some i → ∃ b, pool[i]? = some b ∧ b.eligible now = true) ∧
    (eligibleIdx pool now ≠ [] → (ipHashPick pool now key).isSome ∧ (ipHashCPick pool now key).isSome) := by
  refine ⟨(ipHashPick_spec pool now key).1, (ipHashCPick_spec pool now key).1, fun hne => ?_⟩
  have hsome : ∀ o : Option Nat, (o = none → ∀ b ∈ pool, b.eligible now = false) → o.isSome := fun o h =>
    Option.isSome_iff_ne_none.mpr fun e => hne ((eligibleIdx_eq_nil pool now).mpr (h e))
  exact ⟨hsome _ (ipHashPick_spec pool now key).2, hsome _ (ipHashCPick_spec pool now key).2⟩

/-- **Minimal remapping**: appending a backend to an ip_hash_consistent pool moves a client only onto
the appended backend (for every key and every pool with an eligible backend). -/
theorem append_minimal (pool : List Backend) (b : Backend) (now : Nat) (key : Bytes)
    (hne : eligibleIdx pool now ≠ []) :
    ipHashCPick (pool ++ [b]) now key = ipHashCPick pool now key ∨
    ipHashCPick (pool ++ [b]) now key = some pool.length := by
  simp only [ipHashCPick, eligibleIdx_append]
  cases b.eligible now with
  | false => exact .inl (by simp only [Bool.false_eq_true, if_false, List.append_nil])
  | true =>
    generalize eligibleIdx pool now = el at hne ⊢
    generalize (fnv1a key).toUInt64 = x
    have hlen : 0 < el.length := List.length_pos_iff.mpr hne
    rw [if_pos rfl, List.length_append, List.length_singleton, if_neg (Nat.succ_ne_zero _), if_neg (Nat.ne_of_gt hlen)]
    rcases jump_monotone x el.length with h | h <;> rw [h]
    · exact .inl (List.getElem?_append_left (jump_toNat_lt x _ hlen))
    · exact .inr (by rw [Int.toNat_natCast, List.getElem?_concat_length])

/-! ### calibration against the Go functions -/

example : jumpHash 12345 10 = 1 := by decide
-- "10.1.2.3:4567" ↦ "10.1.2.3";  "[::1]:80" ↦ "::1";  "::1" is rejected (raw RemoteAddr is used)
example : splitHost [49,48,46,49,46,50,46,51,58,52,53,54,55] = some [49,48,46,49,46,50,46,51] := by decide
example : splitHost [91,58,58,49,93,58,56,48] = some [58,58,49] := by decide
example : splitHost [58,58,49] = none := by decide
-- FNV-1a("a") = 0xe40c292c (Go: fnv.New32a)
example : fnv1a [97] = 0xe40c292c := by decide

end Helios.LB
