import Helios.Lemmas.LBFrame
/-
C13 — Accounting: counters conserve requests; in-flight gauges return to zero.
Invariants of `LB.Sys` over every history of request begins/ends, admin operations, ejections and probes.
The histories (`Op`, `stepOp`, `runOps`; `stepOp_ind`) are defined here, and `UniqueTids` (request ids in
flight are distinct), which `runOps_ind` carries along; C13G and C04M use them.
-/
namespace Helios.LB

/-- every request that reached the balancer is in exactly one of: successful, failed,
rate-limited, still in flight -/
def Conserved (y : Sys) : Prop :=
  y.total = y.okCnt + y.failed + y.limited + y.flights.length

theorem begin_ctrs (y : Sys) (tid now : Nat) (r : Addr.Req) :
    (begin y tid now r).1.total = y.total + 1 ∧ (begin y tid now r).1.okCnt = y.okCnt ∧
    (((begin y tid now r).1.flights = y.flights ∧
        (begin y tid now r).1.failed + (begin y tid now r).1.limited = y.failed + y.limited + 1) ∨
     (∃ fl : Flight, fl.tid = tid ∧ (begin y tid now r).1.flights = fl :: y.flights ∧
        (begin y tid now r).1.failed = y.failed ∧ (begin y tid now r).1.limited = y.limited)) := by
  rcases begin_cases y tid now r with ⟨f, l, rl, cb, e, hfl, _⟩ | ⟨rl, cb, gen, e⟩
  · rw [e]; exact ⟨rfl, rfl, .inl ⟨rfl, hfl⟩⟩
  · obtain ⟨h1, h2, h3, h4, h5⟩ := findBackend_ind (P := fun y' => y'.total = y.total + 1 ∧ y'.okCnt = y.okCnt ∧
      y'.failed = y.failed ∧ y'.limited = y.limited ∧ y'.flights = y.flights) now (Addr.strategyKey r) (fun _ h => h)
      (fun _ _ _ h _ => h) retryBudget { y with total := y.total + 1, rl := rl, cb := cb } ⟨rfl, rfl, rfl, rfl, rfl⟩
    -- named: else unification unfolds `findBackend`
    generalize hf : findBackend _ now _ retryBudget = f at h1 h2 h3 h4 h5
    rw [e]
    rcases dispatch_cases _ gen tid now r hf with ⟨_, cb', e⟩ | ⟨i, o, _, _, e⟩
    · rw [e]
      exact ⟨h1, h2, .inl ⟨h5, by show _ + 1 + _ = _; rw [h3, h4, Nat.add_right_comm]⟩⟩
    · rw [e]
      exact ⟨h1, h2, .inr ⟨_, rfl, congrArg _ h5, h3, h4⟩⟩

/-- `ServeHTTP` up to the backend call keeps the books: the new request is counted as limited, as
failed or as in flight. -/
theorem begin_conserved (y : Sys) (tid now : Nat) (r : Addr.Req) (h : Conserved y) :
    Conserved (begin y tid now r).1 := by
  unfold Conserved at *
  obtain ⟨h1, h2, ⟨h3, h4⟩ | ⟨fl, _, h3, h4, h5⟩⟩ := begin_ctrs y tid now r
  · rw [h1, h2, h3, Nat.add_assoc y.okCnt, h4, h, Nat.add_right_comm, Nat.add_assoc y.okCnt, Nat.add_assoc y.okCnt]
  · rw [h1, h2, h3, h4, h5, h]; rfl

theorem end_ctrs (y : Sys) (tid now : Nat) (out : Outcome) :
    (end_ y tid now out).1 = y ∨
    ((∃ fl ∈ y.flights, fl.tid = tid) ∧
     (end_ y tid now out).1.flights = y.flights.filter (fun f => f.tid ≠ tid) ∧
     (end_ y tid now out).1.total = y.total ∧ (end_ y tid now out).1.limited = y.limited ∧
     (end_ y tid now out).1.okCnt + (end_ y tid now out).1.failed = y.okCnt + y.failed + 1) := by
  rcases end_cases y tid now out with e | ⟨fl, o, hm, ht, _, _, e⟩
  · rw [e]; exact .inl rfl
  · refine .inr ⟨⟨fl, hm, ht⟩, ?_⟩
    obtain ⟨fc, cb, ef | ef⟩ := finish_cases { y with flights := y.flights.filter (fun f => f.tid ≠ tid) } fl o now out
    all_goals
      rw [e, ef]
      refine ⟨rfl, rfl, rfl, ?_⟩
      show y.okCnt + _ + (y.failed + _) = _
      cases out.ok with
      | false => rfl
      | true => exact Nat.add_right_comm ..

theorem flights_perm {tid : Nat} {l : List Flight} (hu : (l.filter (fun f => f.tid = tid)).length ≤ 1)
    (fl : Flight) (hm : fl ∈ l) (ht : fl.tid = tid) : l.Perm (fl :: l.filter (fun f => f.tid ≠ tid)) := by
  have h1 : fl ∈ l.filter (fun f => decide (f.tid = tid)) := List.mem_filter.mpr ⟨hm, decide_eq_true ht⟩
  have h2 := List.filter_append_perm (fun f : Flight => decide (f.tid = tid)) l
  simp only [ne_eq, decide_not]
  generalize l.filter (fun f => decide (f.tid = tid)) = m at hu h1 h2
  match m, hu, h1 with
  | [], _, h1 => cases h1
  | [a], _, h1 => rw [List.mem_singleton.mp h1]; exact h2.symm
  | _ :: _ :: _, hu, _ => exact absurd hu (by simp)

/-- The end of an exchange keeps the books, for every outcome class (2xx–5xx, unreachable, aborted
mid-body), provided request ids in flight are distinct. -/
theorem end_conserved (y : Sys) (tid now : Nat) (out : Outcome) (h : Conserved y)
    (huniq : (y.flights.filter (fun f => f.tid = tid)).length ≤ 1) :
    Conserved (end_ y tid now out).1 := by
  rcases end_ctrs y tid now out with e | ⟨⟨fl, hm, ht⟩, h1, h2, h3, h4⟩
  · rw [e]; exact h
  · unfold Conserved at *
    rw [h1, h2, h3, h4, h, (flights_perm huniq fl hm ht).length_eq, List.length_cons, Nat.add_right_comm _ 1,
      Nat.add_right_comm _ 1]
    rfl

theorem conserved_init (k : Kind) (hc : HC) : Conserved { kind := k, hc := hc } := rfl

theorem quiescent_totals (y : Sys) (h : Conserved y) (hq : y.flights = []) :
    y.total = y.okCnt + y.failed + y.limited := by
  simpa [Conserved, hq] using h

inductive Op where
  | begin (tid now : Nat) (r : Addr.Req)
  | end_ (tid now : Nat) (out : Outcome)
  | add (name : String) (weight : Int) (addrOk : Bool)
  | remove (name : String)
  | setStrategy (name : String)
  | eject (name : String) (now dur : Nat)
  | probe (name : String) (now : Nat) (ok : Bool)

/-- one operation of the history; a `begin` re-using the id of a request still in flight is ignored -/
def stepOp (y : Sys) : Op → Sys
  | .begin tid now r => if y.flights.any (·.tid = tid) then y else (begin y tid now r).1
  | .end_ tid now out => (end_ y tid now out).1
  | .add n w a => (add y n w a).1
  | .remove n => remove y n
  | .setStrategy n => (setStrategy y n).1
  | .eject n now d => (eject y n now d).1
  | .probe n now ok => (probe y n now ok).1

def runOps (y : Sys) (ops : List Op) : Sys := ops.foldl stepOp y

def UniqueTids (y : Sys) : Prop := ∀ tid, (y.flights.filter (fun f => decide (f.tid = tid))).length ≤ 1

/-- `hheal`, `heject` are asked of any `z` with `P z`: a `probe` heals or ejects in the state its expiry
check leaves (`probe_ind`) -/
theorem stepOp_ind {P : Sys → Prop} {y : Sys} (h : P y)
    (hbegin : ∀ tid now r, (∀ f ∈ y.flights, f.tid ≠ tid) → P (begin y tid now r).1)
    (hend : ∀ tid now out, P (end_ y tid now out).1)
    (hadd : ∀ n w, (∀ o ∈ y.pool, o.b.name ≠ n) →
      P { y with pool := y.pool ++ [newObj y n w], nextId := y.nextId + 1,
                 bm := bmUpd y.bm n (fun m => { m with healthy := true }) })
    (hremove : ∀ o pool', (o :: pool').Perm y.pool → P { y with pool := pool', dead := o :: y.dead })
    (hset : ∀ k, P { y with kind := k, cur := 0, lastEl := [],
                            pool := y.pool.map (fun o => { o with b := { o.b with cw := 0 } }) })
    (hheal : ∀ z i o, P z → z.pool[i]? = some o → P (heal z i o))
    (heject : ∀ z i o now d, P z → z.pool[i]? = some o → P (ejectAt z i o now d)) (op : Op) : P (stepOp y op) := by
  fun_cases stepOp y op with
  | case1 => exact h
  | case2 tid now r hany =>
    exact hbegin tid now r fun f hf e => hany (List.any_eq_true.mpr ⟨f, hf, decide_eq_true e⟩)
  | case3 tid now out => exact hend tid now out
  | case4 n w a =>
    rcases add_cases y n w a with e | ⟨hn, e⟩ <;> rw [e]
    · exact h
    · exact hadd n w hn
  | case5 n =>
    rcases remove_cases y n with ⟨_, e⟩ | ⟨o, _, _, hp, e⟩ <;> rw [e]
    · exact h
    · exact hremove o _ hp
  | case6 n =>
    rcases setStrategy_cases y n with e | ⟨k, e⟩ <;> rw [e]
    · exact h
    · exact hset k
  | case7 n now d => exact eject_ind n now d h fun i o => heject y i o now d h
  | case8 n now ok => exact probe_ind ok hheal (fun _ => heject) y n now h

theorem uniqueTids_step (y : Sys) (op : Op) (h : UniqueTids y) : UniqueTids (stepOp y op) := by
  refine stepOp_ind h (fun tid now r hnew t => ?_) (fun tid now out t => ?_) (fun _ _ _ => h) (fun _ _ _ => h)
    (fun _ => h) (fun _ _ _ h _ => h) (fun _ _ _ _ _ h _ => h) op
  · obtain ⟨_, _, ⟨e, _⟩ | ⟨fl, ht, e, _⟩⟩ := begin_ctrs y tid now r <;> rw [e]
    · exact h t
    · rw [List.filter_cons]
      split
      · rename_i hfl
        rw [List.filter_eq_nil_iff.mpr fun f hf => by
          simpa using fun e => hnew f hf (e.trans ((of_decide_eq_true hfl).symm.trans ht))]
        exact Nat.le_refl 1
      · exact h t
  · rcases end_ctrs y tid now out with e | ⟨_, e, _⟩ <;> rw [e]
    · exact h t
    · exact Nat.le_trans ((List.filter_sublist.filter _).length_le) (h t)

theorem runOps_ind {P : Sys → Prop} (step : ∀ y op, UniqueTids y → P y → P (stepOp y op)) (ops : List Op) {y : Sys}
    (h : UniqueTids y ∧ P y) : UniqueTids (runOps y ops) ∧ P (runOps y ops) :=
  List.foldlRecOn ops stepOp (motive := fun y => UniqueTids y ∧ P y) h
    fun y hy op _ => ⟨uniqueTids_step y op hy.1, step y op hy.1 hy.2⟩

theorem conserved_step (y : Sys) (op : Op) (hu : UniqueTids y) (h : Conserved y) : Conserved (stepOp y op) :=
  stepOp_ind h (fun tid now r _ => begin_conserved y tid now r h) (fun tid now out => end_conserved y tid now out h (hu tid))
    (fun _ _ _ => h) (fun _ _ _ => h) (fun _ => h) (fun _ _ _ h _ => h) (fun _ _ _ _ _ h _ => h) op

/-- **Conservation along every history.** From a fresh balancer, after any sequence of request
begins/ends (any overlap, any outcome), admin operations, ejections and probes:
`total = successful + failed + rate_limited + in_flight`. -/
theorem conserved_run (k : Kind) (hc : HC) (rl : Option (RL.Cfg × RL.Map)) (cb : Option (CB.Cfg × CB.State))
    (ops : List Op) : Conserved (runOps { kind := k, hc := hc, rl := rl, cb := cb } ops) :=
  (runOps_ind conserved_step ops (y := { kind := k, hc := hc, rl := rl, cb := cb }) ⟨fun _ => Nat.zero_le 1, rfl⟩).2

def inflightOn (y : Sys) (id : Nat) : Nat := (y.flights.filter (fun f => f.bid = id)).length

/-- every backend object's gauge equals the number of requests in flight on it -/
def GaugeOK (y : Sys) : Prop := ∀ o ∈ y.pool ++ y.dead, o.b.conns = inflightOn y o.id

theorem gauges_zero_when_idle (y : Sys) (h : GaugeOK y) (hq : y.flights = []) :
    ∀ o ∈ y.pool ++ y.dead, o.b.conns = 0 :=
  fun o ho => by simpa [inflightOn, hq] using h o ho

private def hc0 : HC := { passive := false, threshold := 1, ejectFor := 1 }
private def b0 : Backend := { name := "A", weight := 1, healthy := true, until_ := none, conns := 0, cw := 0 }
private def y0 : Sys := { kind := .rr, hc := hc0, pool := [⟨0, b0⟩], nextId := 1 }
/-- aborted response: gauge back to 0, request counted as failed -/
example : let y1 := (begin y0 1 0 ⟨[], [], []⟩).1
          let y2 := (end_ y1 1 5 .abort).1
          (y2.pool.map (·.b.conns), y2.total, y2.okCnt, y2.failed, y2.flights.length) = ([0], 1, 0, 1, 0) := by decide
/-- no healthy backend: counted as failed -/
example : let y1 := (begin { y0 with pool := [⟨0, { b0 with healthy := false, until_ := some 100 }⟩] } 1 0 ⟨[], [], []⟩).1
          (y1.total, y1.failed) = (1, 1) := by decide

end Helios.LB
