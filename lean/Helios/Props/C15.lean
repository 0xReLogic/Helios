import Helios.Model.Http
/-
C15 — gzip plugin: what the client decodes is exactly what the backend sent.

Statements are about the operations the plugin hands to the writer underneath (`.wgz b`
stands for the gzip encoding of `b`; `gunzip (gzip b) = b` is the assumed contract of compress/gzip).
-/
namespace Helios.Http

/-- empty writes reach nobody -/
def nz (b : Body) : Body := b.filter (·.1 > 0)

/-- the body bytes a sequence of writer operations delivers, after decoding gzip members -/
def payload : List Op → Body
  | [] => []
  | .w c :: ops => nz [c] ++ payload ops
  | .wgz b :: ops => nz b ++ payload ops
  | _ :: ops => payload ops

theorem payload_append (a b : List Op) : payload (a ++ b) = payload a ++ payload b := by
  fun_induction payload a <;> simp [payload, *]

theorem payload_map_w (b : Body) : payload (b.map .w) = nz b := by
  induction b with
  | nil => rfl
  | cons c cs ih => exact (congrArg (nz [c] ++ ·) ih).trans (List.filter_append ..).symm

theorem payload_nz_map_w (b : Body) : payload ((b.filter (·.1 > 0)).map .w) = nz b :=
  (payload_map_w _).trans (by simp [nz])

theorem gz_commit_payload (g : Gz) : payload g.commit.1 = [] := by
  fun_cases Gz.commit g <;> rfl

theorem gz_commit_all_wh (g : Gz) : ∀ o ∈ g.commit.1, ∃ c, o = .wh c := by
  fun_cases Gz.commit g with
  | case1 => exact List.forall_mem_nil _
  | case2 => exact fun _ ho => ⟨_, List.mem_singleton.mp ho⟩

theorem payload_finish (g : Gz) (h : Hdr) :
    payload (g.finish h).1 = if g.bufferExceeded then [] else nz g.buf := by
  fun_cases Gz.finish g h <;> simp +zetaDelta [payload, payload_append, gz_commit_payload, payload_nz_map_w, *]

/-- counting what `Finish` would still deliver (whatever the header map: `payload_finish`), a step adds what came in: in any
state, reachable or not -/
theorem gz_step_payload (g : Gz) (op : Op) (h h' : Hdr) :
    payload (g.step op).1 ++ payload ((g.step op).2.finish h').1 = payload (g.finish h).1 ++ payload [op] := by
  rw [payload_finish, payload_finish]
  fun_cases Gz.step g op with
  | case10 c hx =>
    -- buffered
    have he : g.bufferExceeded = false := (Bool.or_eq_false_iff.1 (Bool.eq_false_iff.2 hx)).1
    simp [payload, nz, he]
  -- the other cases: nothing with payload comes in or goes out; or the plugin is streaming and `op` passes; or the
  -- buffer is given up now, and the status line, the buffered chunks and `op` go out
  | _ => simp +zetaDelta [payload, payload_append, gz_commit_payload, payload_nz_map_w, *]

/-- the plugin's output, `Finish` included -/
def gzOut (g : Gz) (h : Hdr) (ops : List Op) : List Op :=
  let t := transGz g h ops
  t.1 ++ (t.2.1.finish t.2.2).1

theorem gzOut_cons (g : Gz) (h : Hdr) (op : Op) (ops : List Op) :
    gzOut g h (op :: ops) = (g.step op).1 ++ gzOut (g.step op).2 ((g.step op).1.foldl applyHdr h) ops :=
  List.append_assoc ..

theorem gzOut_payload (ops : List Op) : ∀ (g : Gz) (h : Hdr),
    payload (gzOut g h ops) = payload (g.finish h).1 ++ payload ops := by
  induction ops with
  | nil => exact fun g h => (List.append_nil _).symm
  | cons o os ih =>
    intro g h
    rw [gzOut_cons, payload_append, ih, ← List.append_assoc, gz_step_payload g o h, List.append_assoc,
      ← payload_append [o] os]
    rfl

/-- handler operations: no ready-made gzip members -/
def plain (ops : List Op) : Prop := ∀ o ∈ ops, ∀ b, o ≠ .wgz b

/-- **What the client decodes is what the backend sent.** For every sequence of handler
operations, every configuration and header state, the bytes the plugin passes down (a gzip member
counted as its decoded content) are the handler's body bytes, in order, below or above the cap. -/
theorem payload_preserved (ops : List Op) (hp : plain ops) (ms : Nat) (types : List String) (cap : Nat) (h : Hdr) :
    let t := transGz { minSize := ms, types := types, cap := cap } h ops
    payload (t.1 ++ (t.2.1.finish t.2.2).1) = payload ops :=
  gzOut_payload ops _ h

/-- the status-line operations in a sequence -/
def whs : List Op → List Nat
  | [] => []
  | .wh c :: ops => c :: whs ops
  | _ :: ops => whs ops

theorem whs_append (a b : List Op) : whs (a ++ b) = whs a ++ whs b := by
  fun_induction whs a <;> simp [whs, *]

theorem whs_map_w (b : Body) : whs (b.map .w) = [] := by
  induction b with
  | nil => rfl
  | cons c cs ih => exact ih

/-- the status line still owed to the client -/
def pending (g : Gz) : List Nat := if g.headerSent then [] else [if g.wroteHeader then g.statusCode else 200]

theorem gz_commit_whs (g : Gz) : whs g.commit.1 = pending g := by
  fun_cases Gz.commit g with
  | case1 h => exact (if_pos h).symm
  | case2 h => exact (if_neg h).symm

theorem whs_finish (g : Gz) (h : Hdr) : whs (g.finish h).1 = if g.bufferExceeded then [] else pending g := by
  fun_cases Gz.finish g h <;> simp +zetaDelta [whs, whs_append, gz_commit_whs, whs_map_w, *]

theorem gz_step_whs (g : Gz) (op : Op) (hop : ∀ c, op ≠ .wh c) (h h' : Hdr) :
    whs (g.step op).1 ++ whs ((g.step op).2.finish h').1 = whs (g.finish h).1 := by
  rw [whs_finish, whs_finish]
  fun_cases Gz.step g op with
  | case3 | case4 | case5 => exact absurd rfl (hop _)
  | _ => simp +zetaDelta [whs, whs_append, gz_commit_whs, whs_map_w, pending, *]

theorem gzOut_whs (ops : List Op) (hn : ∀ c, .wh c ∉ ops) : ∀ (g : Gz) (h : Hdr),
    whs (gzOut g h ops) = whs (g.finish h).1 := by
  induction ops with
  | nil => exact fun g h => rfl
  | cons o os ih =>
    intro g h
    rw [gzOut_cons, whs_append, ih fun c hc => hn c (List.mem_cons_of_mem _ hc),
      gz_step_whs g o (fun c hc => hn c (hc ▸ List.mem_cons_self ..)) h]

theorem gzOut_headers (hs : List Op) (hh : headerOnly hs) (rest : List Op) : ∀ (g : Gz) (h : Hdr),
    ∃ h', whs (gzOut g h (hs ++ rest)) = whs (gzOut g h' rest) := by
  induction hs with
  | nil => exact fun _ h => ⟨h, rfl⟩
  | cons o hs ih =>
    obtain ⟨ho, hh'⟩ := List.forall_mem_cons.mp hh
    cases o with
    | setH _ _ | delH _ => exact fun g h => gzOut_cons .. ▸ ih hh' g _
    | _ => exact nomatch ho

/-- **The backend's status, once.** For a response `headers; WriteHeader(c); writes/flushes`
(`c ≥ 200`) the plugin sends exactly one status line, and it is `c` — whether the body is
compressed, passed as is, or streamed after the cap. Without WriteHeader it is 200. -/
theorem status_preserved (ms : Nat) (types : List String) (cap : Nat) (h0 : Hdr) (hs body : List Op) (c : Nat)
    (hh : headerOnly hs) (hb : bodyOnly body) (hc : 200 ≤ c) :
    (let t := transGz { minSize := ms, types := types, cap := cap } h0 (hs ++ [.wh c] ++ body)
     whs (t.1 ++ (t.2.1.finish t.2.2).1) = [c]) ∧
    (let t := transGz { minSize := ms, types := types, cap := cap } h0 (hs ++ body)
     whs (t.1 ++ (t.2.1.finish t.2.2).1) = [200]) := by
  have hni : ¬ (c ≥ 100 ∧ c < 200) := fun h => Nat.not_le.2 h.2 hc
  -- writes, flushes and `Finish` send the one status line owed
  have owed : ∀ g h, whs (gzOut g h body) = if g.bufferExceeded then [] else pending g := fun g h =>
    (gzOut_whs body (fun c hm => by rcases hb _ hm with ⟨_, e⟩ | e <;> cases e) g h).trans (whs_finish ..)
  constructor
  · obtain ⟨h', e⟩ := gzOut_headers hs hh (.wh c :: body) { minSize := ms, types := types, cap := cap } h0
    show whs (gzOut _ h0 _) = _
    rw [List.append_assoc, List.singleton_append, e, gzOut_cons]
    simp only [Gz.step, Bool.false_eq_true, if_false, hni]
    exact owed ..
  · obtain ⟨h', e⟩ := gzOut_headers hs hh body { minSize := ms, types := types, cap := cap } h0
    exact e.trans (owed ..)

/-- **Compression only if …** `Finish` emits a gzip member only when nothing was streamed and every
condition of `shouldCompress` holds; it then sets `Content-Encoding: gzip` and drops Content-Length
*before* the status line. -/
theorem compress_only_if (g : Gz) (h : Hdr) (b : Body) (hm : Op.wgz b ∈ (g.finish h).1) :
    g.bufferExceeded = false ∧ b = g.buf ∧ b.len ≠ 0 ∧ g.minSize ≤ b.len ∧
    h.get "Content-Encoding" = "" ∧ matchesType (h.get "Content-Type") g.types = true ∧
    (∀ cl, parseInt? (h.get "Content-Length") = some cl → (g.minSize : Int) ≤ cl) ∧
    (g.finish h).1 = [.setH "Content-Encoding" "gzip", .delH "Content-Length"] ++ g.commit.1 ++ [.wgz b] := by
  have hnc : ∀ b', Op.wgz b' ∉ g.commit.1 := fun b' hb' => nomatch gz_commit_all_wh g _ hb'
  revert hm
  fun_cases Gz.finish g h with
  | case1 => exact nofun
  | case2 he e hs =>
    intro hm
    have hb : b = g.buf := by simpa [e, hnc] using hm
    subst hb
    simp only [Gz.shouldCompress, Bool.and_eq_true, Bool.not_eq_true', decide_eq_false_iff_not, beq_iff_eq] at hs
    obtain ⟨⟨⟨⟨h1, h2⟩, h3⟩, h4⟩, h5⟩ := hs
    refine ⟨Bool.eq_false_iff.2 he, rfl, h1, Nat.not_lt.1 h4, h2, h5, fun cl hcl => ?_, rfl⟩
    rw [hcl] at h3
    exact Int.not_lt.1 (of_decide_eq_false h3)
  | case3 =>
    intro hm
    rcases List.mem_append.mp hm with h1 | h1
    · exact absurd h1 (hnc b)
    · obtain ⟨_, _, e⟩ := List.mem_map.mp h1; cases e

/-- **Identity otherwise.** When no gzip member is emitted, the plugin adds no header
operation of its own: Content-Encoding / Content-Length stay as the backend set them. -/
theorem identity_otherwise (g : Gz) (h : Hdr) (hn : ∀ b, Op.wgz b ∉ (g.finish h).1) :
    ∀ o ∈ (g.finish h).1, o.isHeaderOp = false := by
  revert hn
  fun_cases Gz.finish g h with
  | case1 => exact fun _ => List.forall_mem_nil _
  | case2 => exact fun hn => absurd (List.mem_append_right _ (List.mem_singleton_self _)) (hn g.buf)
  | case3 =>
    intro _ o ho
    rcases List.mem_append.mp ho with h1 | h1
    · obtain ⟨c, rfl⟩ := gz_commit_all_wh g o h1; rfl
    · obtain ⟨_, _, rfl⟩ := List.mem_map.mp h1; rfl

/-- a client that does not list `gzip` in Accept-Encoding bypasses the plugin entirely -/
theorem not_accepting_passthrough (gzLen : Body → Nat) (ms : Nat) (types : List String) (ps : List Plugin)
    (req : Request) (h : Hdr) (inner : Request → List Op)
    (hna : acceptsGzip (req.hdr.get "Accept-Encoding") = false) :
    serve gzLen (.gzip ms types :: ps) req h inner = serve gzLen ps req h inner := by
  simp [serve, hna]

private def g0 : Gz := { minSize := 10, types := ["text/"], cap := 1000 }
private def hText : Hdr := [("Content-Type", "text/plain")]
/-- compressed and labelled, status kept -/
example : let t := transGz g0 hText [.wh 201, .w (20, 1)]
    t.1 ++ (t.2.1.finish t.2.2).1 =
      [.setH "Content-Encoding" "gzip", .delH "Content-Length", .wh 201, .wgz [(20, 1)]] := rfl
/-- already encoded: delivered as is -/
example : let t := transGz g0 (hText ++ [("Content-Encoding", "br")]) [.wh 200, .w (20, 1)]
    t.1 ++ (t.2.1.finish t.2.2).1 = [.wh 200, .w (20, 1)] := rfl
/-- above the cap: streamed, nothing lost -/
example : let t := transGz { g0 with cap := 25 } hText [.w (20, 1), .w (20, 2), .w (3, 3)]
    t.1 ++ (t.2.1.finish t.2.2).1 = [.wh 200, .w (20, 1), .w (20, 2), .w (3, 3)] := rfl

end Helios.Http
