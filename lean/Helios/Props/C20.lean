import Helios.Model.Pool
/-
C20 — WebSocket connection-pool invariants (the tunnel clause rests on `Facts.wrappers_capable`).
-/
namespace Helios.Pool

def conns (l : List (Nat × Nat)) : List Nat := l.map (·.1)

theorem takeFresh_spec (timeout now : Nat) (l : List (Nat × Nat)) :
    let r := takeFresh timeout now l
    (∀ c, r.2.1 = some c → ∃ used, (c, used) ∈ l ∧ now - used ≤ timeout) ∧
    (∀ x ∈ r.1, x ∈ l) ∧ r.1.length ≤ l.length ∧
    (∀ c ∈ r.2.2, ∃ used, (c, used) ∈ l ∧ now - used > timeout) ∧
    ((conns l).Nodup → (conns r.1).Nodup ∧ ∀ c, r.2.1 = some c → c ∉ conns r.1) := by
  fun_induction takeFresh timeout now l with
  | case1 => simp [conns]
  | case2 c0 u0 xs hst r ih =>
    obtain ⟨i1, i2, i3, i4, i5⟩ := ih
    exact ⟨fun c hc => (i1 c hc).imp fun _ => .imp_left (List.mem_cons_of_mem _),
      fun y hy => List.mem_cons_of_mem _ (i2 y hy),
      Nat.le_succ_of_le i3,
      List.forall_mem_cons.2 ⟨⟨u0, List.mem_cons_self, hst⟩,
        fun c hc => (i4 c hc).imp fun _ => .imp_left (List.mem_cons_of_mem _)⟩,
      fun hn => i5 (List.nodup_cons.1 hn).2⟩
  | case3 c0 u0 xs hst =>
    refine ⟨?_, fun y => List.mem_cons_of_mem _, Nat.le_succ _, List.forall_mem_nil _, fun hn => ?_⟩
    · rintro _ ⟨⟩; exact ⟨u0, List.mem_cons_self, Nat.le_of_not_gt hst⟩
    · obtain ⟨h1, h2⟩ := List.nodup_cons.1 hn
      exact ⟨h2, by rintro _ ⟨⟩; exact h1⟩

/-- **Freshness.** `Get` never hands out a connection that has been idle longer than `idle_timeout`. -/
theorem get_fresh (s : State) (b : String) (now c : Nat) (h : (get s b now).2 = some c) :
    ∃ p used, find s b = some p ∧ (c, used) ∈ p.idle ∧ now - used ≤ s.timeout := by
  revert h
  fun_cases get s b now with
  | case1 => nofun
  | case2 p hf r =>
    intro h
    obtain ⟨u, hu, hle⟩ := (takeFresh_spec s.timeout now p.idle).1 c h
    exact ⟨p, u, hf, hu, hle⟩

theorem find_setPool (s : State) (b : String) (p : CP) : find (setPool s b p) b = some p := by
  have : (s.pools.filter (·.1 ≠ b)).find? (·.1 = b) = none :=
    List.find?_eq_none.2 fun x hx => by simpa using (List.mem_filter.1 hx).2
  rw [find, setPool, List.find?_append, this]; simp

/-- **Exclusive hand-out.** A connection returned by `Get` is no longer idle in that backend's pool (idle entries
being distinct): no second `Get` can return it until its holder puts it back. -/
theorem get_exclusive (s : State) (b : String) (now c : Nat) (p : CP) (hf : find s b = some p)
    (hn : (conns p.idle).Nodup) (h : (get s b now).2 = some c) :
    ∃ p', find (get s b now).1 b = some p' ∧ c ∉ conns p'.idle ∧ (conns p'.idle).Nodup := by
  rw [get, hf] at h ⊢
  have hs := (takeFresh_spec s.timeout now p.idle).2.2.2.2 hn
  exact ⟨_, find_setPool s b _, hs.2 c h, hs.1⟩

def Bounded (s : State) : Prop := ∀ bp ∈ s.pools, bp.2.idle.length ≤ s.maxIdle

theorem bounded_setPool (s : State) (b : String) (p : CP) (h : Bounded s) (hp : p.idle.length ≤ s.maxIdle) :
    Bounded (setPool s b p) :=
  List.forall_mem_append.2 ⟨fun bp hbp => h bp (List.mem_filter.1 hbp).1, List.forall_mem_singleton.2 hp⟩

theorem find_mem {s : State} {b : String} {p : CP} (h : find s b = some p) : (b, p) ∈ s.pools := by
  obtain ⟨⟨n, q⟩, hx, rfl⟩ := Option.map_eq_some_iff.1 h
  cases of_decide_eq_true (List.find?_some hx :)
  exact List.mem_of_find?_eq_some hx

/-- **At most `max_idle` idle connections per backend**, after every operation. -/
theorem idle_bounded (s : State) (h : Bounded s) :
    (∀ b now, Bounded (get s b now).1) ∧ (∀ b c now, Bounded (put s b c now).1) ∧
    (∀ b c, Bounded (close s b c)) ∧ (∀ now, Bounded (cleanup s now)) ∧ Bounded (shutdown s) := by
  refine ⟨?_, ?_, ?_, fun now => List.forall_mem_map.2 fun x hx =>
    Nat.le_trans (List.length_filter_le _ _) (h x hx), List.forall_mem_nil _⟩
  · intro b now
    fun_cases get s b now with
    | case1 => exact h
    | case2 p hf r =>
      exact bounded_setPool s b _ h (Nat.le_trans (takeFresh_spec s.timeout now p.idle).2.2.1 (h _ (find_mem hf)))
  · intro b c now
    have hp : ((find s b).getD {}).idle.length ≤ s.maxIdle := by
      cases hf : find s b with
      | none => exact Nat.zero_le _
      | some p => exact h _ (find_mem hf)
    fun_cases put s b c now with
    | case1 => exact h
    | case2 => exact bounded_setPool s b _ h hp
    | case3 _ _ _ hlt => exact bounded_setPool s b _ h (Nat.lt_of_not_ge hlt)
  · intro b c
    fun_cases close s b c with
    | case1 => exact h
    | case2 s' p hf => exact bounded_setPool s' b _ h (h _ (find_mem hf))

/-- **Shutdown closes everything it holds** and retains nothing. -/
theorem shutdown_closes_all (s : State) :
    retained (shutdown s) = [] ∧ (∀ c ∈ retained s, c ∈ (shutdown s).closed) ∧ (shutdown s).down = true :=
  ⟨rfl, fun _ hc => List.mem_append_right _ hc, rfl⟩

def Down (s : State) : Prop := s.down = true ∧ s.pools = []

/-- after shutdown the pool stays empty whatever is called: a late `Put` closes the
connection instead of keeping it -/
theorem down_forever (s : State) (h : Down s) :
    (∀ b now, Down (get s b now).1 ∧ (get s b now).2 = none) ∧
    (∀ b c now, Down (put s b c now).1 ∧ (put s b c now).2 = false ∧ c ∈ (put s b c now).1.closed) ∧
    (∀ b c, Down (close s b c)) ∧ (∀ now, Down (cleanup s now)) ∧ Down (shutdown s) := by
  simp [get, put, close, cleanup, shutdown, find, Down, h.1, h.2]

private def s0 : State := { maxIdle := 2, timeout := 10 }
example : (get (put (put s0 "b" 1 0).1 "b" 2 5).1 "b" 12).2 = some 2 := by decide          -- LIFO, fresh
example : (get (put (put s0 "b" 1 0).1 "b" 2 1).1 "b" 12).2 = none := by decide            -- both stale: closed
example : (put (put (put s0 "b" 1 0).1 "b" 2 0).1 "b" 3 0).2 = false := by decide          -- max_idle
example : (put (shutdown (put s0 "b" 1 0).1) "b" 9 1).1.closed = [1, 9] := by decide       -- late Put is closed

end Helios.Pool
