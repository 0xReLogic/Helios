import Helios.Lemmas.Abs
import Helios.Props.C18
/-
Tie C for C18 — `Config.Validate` and its eleven section validators compute the model's `Cfg.validate`: the same first
violated rule, for every configuration; this carries `validate_iff_documented` to the code. An error of the code and a
rule of the model are compared through `ruleOf`. One check of a validator against one rule is `Ret.cons`, a validator
against its section of the rules is `Sec`, `Validate` is their `chain`.
-/
namespace Helios.CodeTie
open Helios.Generated

def secondsRule (name : String) : Nat :=
  if name == "server read timeout" then 40 else if name == "server write timeout" then 41
  else if name == "server idle timeout" then 42 else if name == "server handler timeout" then 43
  else if name == "server shutdown timeout" then 44 else if name == "backend dial timeout" then 45
  else if name == "backend read timeout" then 46 else if name == "backend idle timeout" then 47
  else if name == "websocket pool idle_timeout_seconds" then 48 else if name == "active health check interval" then 49
  else if name == "active health check timeout" then 50 else if name == "passive health check unhealthy timeout" then 51
  else if name == "rate limit refill rate" then 52 else if name == "circuit breaker interval" then 53
  else if name == "circuit breaker timeout" then 54 else 0

def countsRule (name : String) : Nat :=
  if name == "circuit breaker max requests" then 55 else if name == "circuit breaker failure threshold" then 56
  else if name == "circuit breaker success threshold" then 57 else 0

/-- the rule a validation error stands for, as numbered in `Cfg.rules` (Model/Config.lean): by its format string
(and, for the two range messages shared by many fields, by the field name it was built with) -/
def ruleOf (e : String × List String) : Nat :=
  let m := e.1
  if m == "no backend servers configured" then 1
  else if m == "backend %d: name is required" then 2
  else if m == "backend %s: address is required" then 3
  else if m == "backend %s: weight must be non-negative (got %d)" then 4
  else if m == "server port must be between 1 and 65535 (got %d)" then 5
  else if m == "TLS enabled but cert file not specified" then 6
  else if m == "TLS enabled but key file not specified" then 7
  else if m == "server read timeout must be non-negative (got %d)" then 8
  else if m == "server write timeout must be non-negative (got %d)" then 9
  else if m == "server idle timeout must be non-negative (got %d)" then 10
  else if m == "server handler timeout must be non-negative (got %d)" then 11
  else if m == "server shutdown timeout must be non-negative (got %d)" then 12
  else if m == "backend dial timeout must be non-negative (got %d)" then 13
  else if m == "backend read timeout must be non-negative (got %d)" then 14
  else if m == "backend idle timeout must be non-negative (got %d)" then 15
  else if m == "invalid load balancer strategy: %s (valid: round_robin, least_connections, weighted_round_robin, ip_hash, ip_hash_consistent)" then 16
  else if m == "websocket pool max_idle must be non-negative (got %d)" then 17
  else if m == "websocket pool max_active must be non-negative (got %d)" then 18
  else if m == "websocket pool max_idle (%d) must be less than or equal to max_active (%d)" then 19
  else if m == "websocket pool idle_timeout_seconds must be non-negative (got %d)" then 20
  else if m == "active health check interval must be positive (got %d)" then 21
  else if m == "active health check timeout must be positive (got %d)" then 22
  else if m == "active health check timeout (%d) must be less than interval (%d)" then 23
  else if m == "active health check path is required when enabled" then 24
  else if m == "passive health check unhealthy threshold must be positive (got %d)" then 25
  else if m == "passive health check unhealthy timeout must be positive (got %d)" then 26
  else if m == "rate limit max tokens must be positive (got %d)" then 27
  else if m == "rate limit refill rate must be positive (got %d)" then 28
  else if m == "circuit breaker failure threshold must be positive (got %d)" then 29
  else if m == "circuit breaker success threshold must be positive (got %d)" then 30
  else if m == "circuit breaker timeout must be positive (got %d)" then 31
  else if m == "circuit breaker interval must be positive (got %d)" then 32
  else if m == "circuit breaker max requests must be non-negative (got %d)" then 33
  else if m == "circuit breaker success threshold (%d) must not exceed max requests (%d): the breaker could never close" then 34
  else if m == "metrics port must be between 1 and 65535 (got %d)" then 35
  else if m == "metrics path is required when enabled" then 36
  else if m == "admin API port must be between 1 and 65535 (got %d)" then 37
  else if m == "invalid log level: %s (valid: debug, info, warn, error, fatal)" then 38
  else if m == "invalid log format: %s (valid: json, console, text)" then 39
  else if m == "metrics path must start with '/' (got %q)" then 58
  else if m == "metrics path /health is reserved for the health endpoint of the metrics server" then 59
  else if m == "%s is too large (got %d seconds, at most %d)" then secondsRule (e.2.headD "")
  else if m == "%s is too large (got %d, at most %d)" then countsRule (e.2.headD "")
  else 0

abbrev Err := String × List String

/-- the configuration comes back untouched and the error stands for the first violated rule of the model's section -/
def Sec (v : Code.Config → Code.Config × Option (String × List String)) (r : Cfg.Config → List (Bool × Nat)) : Prop :=
  ∀ g, (v g).1 = g ∧ (v g).2.map ruleOf = fv (r (absCfg g))

def Ret (g : Code.Config) (out : Code.Config × Option Err) (l : List (Bool × Nat)) : Prop :=
  out.1 = g ∧ out.2.map ruleOf = fv l

theorem Sec.of {v r} (h : ∀ g, Ret g (v g) (r (absCfg g))) : Sec v r := h

section
variable {g : Code.Config} {k : Code.Config × Option Err} {l : List (Bool × Nat)} {b : Bool} {e : Err} {n : Nat}

theorem Ret.nil : Ret g (g, none) [] := ⟨rfl, rfl⟩

/-- One check of a validator against the head of the model's rule list. `ruleOf` is run on the message with `beq_iff_eq`
first: deciding `==` on two string literals makes the kernel encode both of them, while `String.reduceEq` proves
`s ≠ t` from the first character in which they differ. -/
theorem Ret.cons (hk : Ret g k l)
    (he : ruleOf e = n := by simp only [ruleOf, beq_iff_eq, String.reduceEq, ↓reduceIte, List.headD_cons]) :
    Ret g (if b then (g, some e) else k) ((b, n) :: l) := by
  cases b
  · exact hk
  · exact ⟨rfl, congrArg some he⟩

theorem Ret.congr {l' : List (Bool × Nat)} (h : Ret g k l) (hl : fv l = fv l') : Ret g k l' := ⟨h.1, hl ▸ h.2⟩

/-- a `range` loop that ends its function: the body's `return`, else no error -/
def outOf (g : Code.Config) (o : Option (Code.Config × Option Err)) : Code.Config × Option Err :=
  match o with
  | some r => r
  | none => (g, none)

/-- a `range` loop followed by `k`: the body's `return`, else `k` -/
def orElse (o : Option (Code.Config × Option Err)) (k : Code.Config × Option Err) : Code.Config × Option Err :=
  match o with
  | some r => r
  | none => k

/-- the rules the entries of `validateRanges`' two tables (seconds, counts) stand for; the bounds equal `Cfg.maxSeconds`,
`Cfg.maxU32` (the last `rfl` of `sec_ranges`), the numbers 6 and 7 are those of the translated loops -/
def f6 (s : String × Int) : Bool × Nat := (decide (s.2 > 9223372036), secondsRule s.1)
def f7 (s : String × Int) : Bool × Nat := (decide (s.2 > 4294967295), countsRule s.1)

theorem range1_spec (bs : List Code.BackendConfig) (i : Int) :
    Ret g (outOf g (Code.validateBackends_range1 g bs i)) (Cfg.backendRules (bs.map absBackendCfg)) := by
  induction bs generalizing i with
  | nil => exact .nil
  | cons b bs ih =>
    simp only [Code.validateBackends_range1, apply_ite (outOf g)]
    exact .cons (.cons (.cons (ih _)))

theorem range6_spec (hk : Ret g k l) (t : List (String × Int)) (i : Int) :
    Ret g (orElse (Code.validateRanges_range6 g t i) k) (t.map f6 ++ l) := by
  induction t generalizing i with
  | nil => exact hk
  | cons s t ih =>
    simp only [Code.validateRanges_range6, apply_ite (orElse · k)]
    exact .cons (ih _)

theorem range7_spec (hk : Ret g k l) (t : List (String × Int)) (i : Int) :
    Ret g (orElse (Code.validateRanges_range7 g t i) k) (t.map f7 ++ l) := by
  induction t generalizing i with
  | nil => exact hk
  | cons s t ih =>
    simp only [Code.validateRanges_range7, apply_ite (orElse · k)]
    exact .cons (ih _)

end

/-- Checks under `if on { … }` are the checks with `on &&` in front; the translator's second copy of
what follows the block then goes by `ite_self`. -/
theorem ite_guard {α} (on b : Bool) (x y z : α) :
    (if on then (if b then x else y) else z) = if (on && b) then x else if on then y else z := by
  cases on <;> rfl

/-- `Cfg.rules` writes this section inline: there is no `Cfg.rBackends` -/
theorem sec_backends : Sec Code.validateBackends (fun c => [(c.backends.isEmpty, 1)] ++ Cfg.backendRules c.backends) :=
  .of fun g => by
  simp only [Code.validateBackends, len_beq_zero, List.isEmpty_map]
  exact .cons (range1_spec _ 0)

theorem sec_server : Sec Code.validateServer Cfg.rServer := .of fun g => by
  simp only [Code.validateServer, ite_guard, ite_self]
  exact .cons (.cons (.cons .nil))

theorem sec_timeouts : Sec Code.validateTimeouts Cfg.rTimeouts := .of fun g =>
  .cons (.cons (.cons (.cons (.cons (.cons (.cons (.cons .nil)))))))

theorem sec_lb : Sec Code.validateLoadBalancer Cfg.rLB := .of fun g => by
  simp only [Code.validateLoadBalancer, ite_guard, ite_self, ← Bool.and_assoc]
  exact .cons (.cons (.cons (.cons (.cons .nil))))

theorem sec_health : Sec Code.validateHealthChecks Cfg.rHealth := .of fun g => by
  simp only [Code.validateHealthChecks, ite_guard, ite_self]
  exact .cons (.cons (.cons (.cons (.cons (.cons .nil)))))

theorem sec_rl : Sec Code.validateRateLimit Cfg.rRL := .of fun g => by
  simp only [Code.validateRateLimit, ite_guard, ite_self]
  exact .cons (.cons .nil)

theorem sec_cb : Sec Code.validateCircuitBreaker Cfg.rCB := .of fun g => by
  simp only [Code.validateCircuitBreaker, ite_guard, ite_self, ← Bool.and_assoc]
  exact .cons (.cons (.cons (.cons (.cons (.cons .nil)))))

theorem hasPrefix_slash (s : String) : Code.strHasPrefix s "/" = Cfg.startsSlash s := by
  unfold Code.strHasPrefix Cfg.startsSlash
  rw [show "/".toList = ['/'] by decide]
  cases s.toList with
  | nil => rfl
  | cons a as => simp only [List.isPrefixOf, List.head?, Bool.and_true, Option.some_beq_some]; exact BEq.comm

theorem sec_metrics : Sec Code.validateMetrics Cfg.rMetrics := .of fun g => by
  simp only [Code.validateMetrics, hasPrefix_slash, ite_guard, ite_self]
  exact .cons (.cons (.cons (.cons .nil)))

theorem sec_admin : Sec Code.validateAdminAPI Cfg.rAdmin := .of fun g => by
  simp only [Code.validateAdminAPI, ite_guard, ite_self]
  exact .cons .nil

theorem sec_log : Sec Code.validateLogging Cfg.rLog := .of fun g =>
  .cons (.cons .nil)

/-- `if on { t = append(t, …) }`, as `validateRanges` grows its two tables -/
theorem fv_snoc_ite {α} (f : α → Bool × Nat) (on : Bool) (a t : List α) (l : List (Bool × Nat)) :
    fv ((if on then a ++ t else a).map f ++ l) = fv (a.map f ++ ((t.map f).map (fun r => (on && r.1, r.2)) ++ l)) := by
  cases on
  · have : fv ((t.map f).map fun r => (false && r.1, r.2)) = none :=
      fv_eq_none.2 (List.forall_mem_map.2 fun _ _ => rfl)
    show fv (a.map f ++ l) = _
    rw [fv_append, fv_append _ (_ ++ _), fv_append _ l, this]
    rfl
  · simp only [↓reduceIte, List.map_append, List.append_assoc, List.map_map]; rfl

theorem sec_ranges : Sec Code.validateRanges Cfg.rRanges := .of fun g => by
  simp only [Code.validateRanges]
  refine (range6_spec ((range7_spec .nil _ 0).congr (fv_snoc_ite ..)) _ 0).congr ?_
  simp only [fv_snoc_ite]
  -- both sides list the same rules once `secondsRule` and `countsRule` have run on the names in the tables
  simp only [List.map_cons, List.map_nil, List.cons_append, List.nil_append, List.append_nil, f6, f7, secondsRule,
    countsRule, beq_iff_eq, String.reduceEq, ↓reduceIte]
  rfl

/-- `if err := v(c); err != nil { return err }; k(c)` -/
def chain (v k : Code.Config → Code.Config × Option Err) (c : Code.Config) : Code.Config × Option Err :=
  if (v c).2.isSome then (c, (v c).2) else k c

theorem sec_chain {v k : Code.Config → Code.Config × Option Err} {r rs : Cfg.Config → List (Bool × Nat)}
    (hv : Sec v r) (hk : Sec k rs) : Sec (chain v k) (fun c => r c ++ rs c) := by
  intro g
  show Ret g (if (v g).2.isSome then _ else _) _
  unfold Ret
  rw [fv_append, ← (hv g).2]
  cases (v g).2 with
  | none => exact hk g
  | some e => exact ⟨rfl, rfl⟩

theorem sec_done : Sec (fun c => (c, none)) (fun _ => []) := fun _ => ⟨rfl, rfl⟩

/-- **`Config.Validate`, as written, is the model's `validate`**: it hands the configuration back untouched and reports
the error of the first violated rule, in the documented order, or none. -/
theorem Validate_refines (g : Code.Config) :
    (Code.Validate g).1 = g ∧ (Code.Validate g).2.map ruleOf = Cfg.validate (absCfg g) := by
  -- `Validate` is, by `rfl`, the `chain` of the eleven validators in this order
  have h : Sec Code.Validate _ :=
    sec_chain sec_backends (sec_chain sec_server (sec_chain sec_timeouts (sec_chain sec_lb (sec_chain sec_health
      (sec_chain sec_rl (sec_chain sec_cb (sec_chain sec_metrics (sec_chain sec_admin (sec_chain sec_log
        (sec_chain sec_ranges sec_done))))))))))
  simpa only [Cfg.validate_fv, Cfg.rules, List.append_assoc, List.append_nil] using h g

/-- with `validate_iff_documented`: the code accepts exactly the documented configurations -/
theorem Validate_iff_documented (g : Code.Config) :
    (Code.Validate g).2 = none ↔ Cfg.Documented (absCfg g) := by
  rw [← Cfg.validate_iff_documented, ← (Validate_refines g).2]
  cases (Code.Validate g).2 <;> simp

theorem rules_ids (c : Cfg.Config) : ∀ r ∈ Cfg.rules c, r.2 ≠ 0 := by
  have hb : ∀ bs, (Cfg.backendRules bs).all (·.2 != 0) = true := by
    intro bs; induction bs with
    | nil => rfl
    | cons b bs ih => exact ih
  simp only [← bne_iff_ne, ← List.all_eq_true, Cfg.rules, List.all_append, hb]
  -- the ids of the fixed sections are literals: `all` evaluates without reading the conditions
  rfl

/-- an error the code returns always stands for a rule (`ruleOf` lost none: 0 is its "unknown") -/
theorem ruleOf_nonzero_on_code (g : Code.Config) (e : Err) (h : (Code.Validate g).2 = some e) : ruleOf e ≠ 0 := by
  have h2 := (Validate_refines g).2
  rw [h] at h2
  obtain ⟨pre, post, hr, _⟩ := fv_eq_some h2.symm
  exact rules_ids _ _ (hr ▸ List.mem_append_right _ (List.mem_cons_self ..))

def sampleCfg : Code.Config :=
  { Server := { Port := 8080, TLS := ⟨false, "", ""⟩, Timeouts := ⟨15, 15, 60, 30, 30, 5, 10, 90⟩ },
    Backends := [⟨"server1", "http://localhost:8081", 5⟩, ⟨"server2", "http://localhost:8082", 0⟩],
    LoadBalancer := { Strategy := "round_robin", WebSocketPool := ⟨true, 10, 100, 300⟩ },
    HealthChecks := { Active := ⟨true, 5, 3, "/health"⟩, Passive := ⟨true, 3, 30⟩ },
    RateLimit := ⟨true, 100, 10⟩, CircuitBreaker := ⟨true, 5, 60, 60, 5, 2⟩,
    Metrics := ⟨true, 9090, "/metrics"⟩, AdminAPI := ⟨true, 9091, "", [], []⟩,
    Plugins := ⟨false, []⟩, Logging := ⟨"info", "text", false, ⟨true, "X-Request-ID"⟩, ⟨true, "X-Trace-ID"⟩⟩ }

/-- non-vacuity: the sample is accepted; broken in two places it is rejected with the first violated rule (58 before 54) -/
example : (Code.Validate sampleCfg).2 = none := by decide +kernel
def longTimeout : Code.Config := { sampleCfg with CircuitBreaker := ⟨true, 5, 60, 9223372037, 5, 2⟩ }
def longTimeoutBadPath : Code.Config := { longTimeout with Metrics := ⟨true, 9090, "metrics"⟩ }
example : (Code.Validate longTimeoutBadPath).2.map ruleOf = some 58 := by
  -- the code is run to its error; `ruleOf` on the error as in `Ret.cons`
  rw [show (Code.Validate longTimeoutBadPath).2 = some ("metrics path must start with '/' (got %q)", ["metrics"]) by
    decide +kernel]
  simp only [Option.map_some, ruleOf, beq_iff_eq, String.reduceEq, ↓reduceIte]
example : (Code.Validate longTimeout).2.map ruleOf = some 54 := by
  rw [show (Code.Validate longTimeout).2 =
    some ("%s is too large (got %d seconds, at most %d)", ["circuit breaker timeout"]) by decide +kernel]
  simp only [Option.map_some, ruleOf, secondsRule, List.headD_cons, beq_iff_eq, String.reduceEq, ↓reduceIte]

theorem translation_clean_cfg :
    (["validateBackends", "validateServer", "validateTimeouts", "validateLoadBalancer", "validateHealthChecks",
      "validateRateLimit", "validateCircuitBreaker", "validateMetrics", "validateAdminAPI", "validateLogging",
      "validateRanges", "Validate"].all Code.translated.contains) = true ∧
    (Code.translationProblems.filter (fun p => p.1.startsWith "validate" || p.1 == "Validate")).isEmpty = true := by
  decide +kernel

end Helios.CodeTie
