import Helios.Lemmas.RateLimiter
/-
C09 — Rate limiting: per-client token-bucket bound, isolation, refill; about `RL.run`, the multi-client model of
internal/ratelimiter/ratelimiter.go, for every time-ordered history of `Allow` calls and cleanup passes. Each
bound is `run_phi` or, through `isolation`, `run1_avail` at that client (Lemmas/RateLimiter.lean).
-/
namespace Helios.RL

/-- the window bound in time units, from any map a history can have reached by `t` -/
theorem window_bound_sharp (c : Cfg) (hR : 0 < c.refill) (k : String) (m : Map) (win : List Op) (t T : Nat)
    (hinv : Inv c (m k) t) (hwin : TimedOps t (t + T) win) :
    admitted k win (run c m win).2 * c.refill ≤ c.max * c.refill + c.refill - 1 + T := by
  have h := (run_phi c hR k win m t (t + T) hinv hwin (Nat.le_add_right ..)).1
  rw [Nat.add_sub_cancel_left] at h
  exact Nat.le_trans (Nat.le_trans (Nat.le_add_right ..) h) (Nat.add_le_add_right (phi_le c (m k) t) _)

/-- **Window bound.** At most `max_tokens + ⌊T/refill⌋ + 1` admissions of one client in any interval of
length `T`, for any arrival pattern. -/
theorem window_bound (c : Cfg) (hR : 0 < c.refill) (k : String)
    (pre win : List Op) (t T : Nat)
    (hpre : TimedOps 0 t pre) (hwin : TimedOps t (t + T) win) :
    admitted k win (run c (run c Map.empty pre).1 win).2 ≤ c.max + T / c.refill + 1 := by
  have h := window_bound_sharp c hR k _ win t T (run_empty_inv c hR k pre t hpre) hwin
  have hT := Nat.lt_div_mul_add (a := T) hR
  refine le_of_mul_le_pred hR ?_
  simp only [Nat.add_mul, Nat.one_mul]
  omega

/-- **Burst bound.** Of requests arriving at one instant at most `max_tokens` are admitted, after any history. -/
theorem burst_bound (c : Cfg) (hR : 0 < c.refill) (k : String)
    (pre win : List Op) (t : Nat)
    (hpre : TimedOps 0 t pre) (hwin : TimedOps t (t + 0) win) :
    admitted k win (run c (run c Map.empty pre).1 win).2 ≤ c.max :=
  le_of_mul_le_pred hR (window_bound_sharp c hR k _ win t 0 (run_empty_inv c hR k pre t hpre) hwin)

theorem isolation_frame (c : Cfg) (m : Map) (k k' : String) (now : Nat) (h : k' ≠ k) :
    (step c m (.allow k' now)).1 k = m k := by
  simp [step, Map.set, h.symm]

/-- **Fresh client.**  A client with no bucket (never seen, or cleaned up) gets its next
`max_tokens` requests admitted, whenever they arrive and whatever else happens. -/
theorem fresh_full (c : Cfg) (k : String) (m : Map) (ops : List Op) (t hi : Nat)
    (hk : m k = none) (ht : TimedOps t hi ops) :
    ∀ b ∈ (reqOuts (outsFor k ops (run c m ops).2)).take c.max, b = true := by
  rw [(isolation c k m ops).2, hk]
  exact run1_avail c (proj k ops) none c.max (Nat.le_refl _) fun _ _ => Nat.le_refl _

/-- **Idle refill.** If, after any history ending at `t₁`, client `k` sends nothing for `n` refill periods
(only cleanup passes happen), at least `min n max_tokens` of its next requests are admitted. -/
theorem idle_refill (c : Cfg) (hR : 0 < c.refill) (k : String)
    (pre idle rest : List Op) (t1 n hi : Nat)
    (hpre : TimedOps 0 t1 pre)
    (hidle : ∀ o ∈ idle, ∃ t, o = .cleanup t)
    (hrest : TimedOps (t1 + n * c.refill) hi rest) :
    let m := (run c Map.empty pre).1
    ∀ b ∈ (reqOuts (outsFor k (idle ++ rest) (run c m (idle ++ rest)).2)).take (min n c.max),
      b = true := by
  intro m
  have hinv : Inv c (m k) t1 := run_empty_inv c hR k pre t1 hpre
  rw [(isolation c k m (idle ++ rest)).2]
  refine run1_avail c _ (m k) _ (Nat.min_le_right ..) fun t ht => ?_
  rcases List.mem_append.1 (req_mem_proj ht) with h | h
  · obtain ⟨_, h⟩ := hidle _ h
    nomatch h
  · have hlo : t1 + n * c.refill ≤ t := hrest.lo_le _ h
    cases hmk : m k with
    | none => exact Nat.min_le_right ..
    | some b => exact avail_idle c hR b t n (Nat.le_trans (Nat.add_le_add_right (hmk ▸ hinv : Inv c (some b) t1).2 _) hlo)

/-! ### non-vacuity: a history meeting the hypotheses -/

private def cfgEx : Cfg := { max := 2, refill := 10, cutoff := 1000 }

/-- a 2-token bucket, period 10: three requests at t=0 (third rejected: burst bound attained), one at t=10 -/
example : (run cfgEx Map.empty [.allow "a" 0, .allow "a" 0, .allow "a" 0, .allow "a" 10]).2
    = [some true, some true, some false, some true] := by decide

/-- window [0,10]: 3 admitted, bound 4; the hypotheses hold -/
example : TimedOps 0 0 [] ∧ TimedOps 0 (0 + 10) [.allow "a" 0, .allow "a" 0, .allow "a" 0, .allow "a" 10] := by
  simp [TimedOps, Op.time]

example : shouldDelete cfgEx { tokens := 0, last := 0 } 1001 = true := by decide
example : shouldDelete cfgEx { tokens := 0, last := 0 } 1000 = false := by decide

end Helios.RL
