import Helios.Lemmas.Go
import Helios.Props.C14
/-
Tie C for C14 and C15 — the response writer of the size_limit plugin (`limitedResponseWriter`) is the model's `Lim.step`:
same state afterwards, and the same calls handed on to the wrapped writer in the same order. After it, the buffering
half of the gzip plugin's writer against `Gz.step`.

The calls on the wrapped writer are kept by the translation as an ordered list (`out`); `enc` reads a model `Op` as such
a call. `gzLen` and `seed` (length of a gzip member, content of a chunk) are the model's and play no part here.
-/
namespace Helios.CodeTie
open Helios.Generated Helios.Http

/-- `.wgz`, `.setH`, `.delH` never occur in the translated halves: their images are placeholders -/
def enc : Op → String × Int
  | .wh c => ("WriteHeader", c)
  | .w c => ("Write", c.1)
  | .wgz _ => ("Write", 0)
  | .fl => ("Flush", 0)
  | .setH _ _ => ("Header", 0)
  | .delH _ => ("Header", 0)

def absLim (w : Code.LimitedResponseWriter) : Lim :=
  { limit := w.limit.toNat, written := w.written.toNat, limitReached := w.limitReached,
    wroteHeader := w.wroteHeader, statusCode := w.statusCode.toNat }

/-- kept by every method: part of `SimL` -/
def WFL (w : Code.LimitedResponseWriter) : Prop := 0 ≤ w.limit ∧ 0 ≤ w.written ∧ 0 ≤ w.statusCode

/-- `w'` is what the model step `r` makes of `w`: state, and the calls handed on after those already made -/
def SimL (w w' : Code.LimitedResponseWriter) (r : List Op × Lim) : Prop :=
  absLim w' = r.2 ∧ w'.out = w.out ++ r.1.map enc ∧ WFL w' ∧ w'.limit = w.limit ∧ w'.rwFlusher = w.rwFlusher

theorem ensure_refines (w : Code.LimitedResponseWriter) (h : WFL w) :
    SimL w (Code.limEnsureHeaderWritten w) (absLim w).ensure := by
  obtain ⟨h1, h2, h3⟩ := h
  have hs' : (w.statusCode.toNat = 0) = (w.statusCode = 0) := propext (Int.toNat_eq_zero.trans (nonpos_iff h3))
  unfold Code.limEnsureHeaderWritten Lim.ensure SimL absLim WFL
  cases hw : w.wroteHeader with
  | true => simp [hw, h1, h2, h3]
  | false => by_cases hs : w.statusCode = 0 <;> simp [hs, hs', enc, h1, h2, h3, Int.max_eq_left h3]

theorem interim_toNat {code : Int} (hc : 0 ≤ code) :
    (100 ≤ code.toNat) = (100 ≤ code) ∧ (code.toNat < 200) = (code < 200) :=
  ⟨propext (Int.le_toNat hc), propext (Int.toNat_lt' (by decide))⟩

theorem writeHeader_refines (gzLen : Body → Nat) (w : Code.LimitedResponseWriter) (h : WFL w) (code : Int) (hc : 0 ≤ code) :
    SimL w (Code.limWriteHeader w code) (Lim.step gzLen (absLim w) (.wh code.toNat)) := by
  obtain ⟨h1, h2, h3⟩ := h
  rw [Lim.step_wh]
  unfold Code.limWriteHeader SimL absLim WFL
  cases hw : w.wroteHeader with
  | true => simp [hw, h1, h2, h3]
  | false =>
    by_cases hi : 100 ≤ code ∧ code < 200
    · simp [hi, interim_toNat hc, enc, h1, h2, h3, Int.max_eq_left hc]
    · simp [hi, interim_toNat hc, h1, h2, hc]

/-- **`Write` as written**: the model's step on a body write of the same length — refused (nothing handed on, or a 413
if the header is still ours to send) exactly when the total would pass the limit or a write was refused before;
otherwise the recorded status goes out first and the bytes after it. The count returned is the length, or 0 with an error. -/
theorem write_refines (gzLen : Body → Nat) (w : Code.LimitedResponseWriter) (h : WFL w) (b : List Nat) (seed : Nat) :
    SimL w (Code.limWrite w b).1 (Lim.step gzLen (absLim w) (.w (b.length, seed))) ∧
    ((Code.limWrite w b).2.2.isSome = (Code.limWrite w b).1.limitReached) ∧
    ((Code.limWrite w b).2.1 = if (Code.limWrite w b).1.limitReached then 0 else (b.length : Int)) := by
  have ⟨h1, h2, h3⟩ := h
  have hr' : (absLim w).limitReached = w.limitReached := rfl
  have hfits : ((absLim w).written + b.length > (absLim w).limit) = ¬ (w.written + (b.length : Int) ≤ w.limit) := by
    show (w.written.toNat + _ > w.limit.toNat) = _
    rw [← Int.toNat_add_nat h2, gt_iff_lt, toNat_lt_toNat h1, Int.not_le]
  rw [Lim.step_write gzLen _ (op := .w (b.length, seed)) ⟨trivial, nofun⟩]
  simp only [opLen, hfits, hr']
  unfold Code.limWrite
  cases hr : w.limitReached with
  | true => simp [SimL, absLim, WFL, hr, h1, h2, h3]
  | false =>
    by_cases hfit : w.written + (b.length : Int) ≤ w.limit
    · have hck : Code.limCheckLimit w b = (w, none) := by
        unfold Code.limCheckLimit; simp [hfit]
      obtain ⟨e1, e2, ⟨f1, f2, f3⟩, e4, e5⟩ := ensure_refines w h
      obtain ⟨_, ee, _⟩ := lim_ensure_frame gzLen (absLim w)
      have hl : (Code.limEnsureHeaderWritten w).limitReached = false := (congrArg Lim.limitReached (e1.trans ee)).trans hr
      simp only [hck, hfit, Bool.false_eq_true, if_false, Option.isSome_none, not_true_eq_false]
      generalize Code.limEnsureHeaderWritten w = we at *
      exact ⟨⟨by rw [← e1]; simp [absLim, Int.toNat_add_nat f2], by simp [e2, enc],
        ⟨f1, Int.add_nonneg f2 (Int.natCast_nonneg _), f3⟩, e4, e5⟩, hl.symm, by simp [hl]⟩
    · unfold Code.limCheckLimit
      cases hw : w.wroteHeader <;> simp [SimL, absLim, WFL, hr, hw, hfit, enc, h1, h2, h3]

/-- `Flush` as written: the recorded status goes out first; the model's writers can all flush -/
theorem flush_refines (gzLen : Body → Nat) (w : Code.LimitedResponseWriter) (h : WFL w) (hf : w.rwFlusher = true) :
    SimL w (Code.limFlush w) (Lim.step gzLen (absLim w) .fl) := by
  obtain ⟨e1, e2, e3, e4, e5⟩ := ensure_refines w h
  unfold Code.limFlush
  simp only [e5.trans hf, if_true]
  exact ⟨e1, by simp [e2, enc, Lim.step], e3, e4, hf.symm⟩

/-- a writer that cannot flush: `Flush` still commits the recorded status -/
theorem flush_no_flusher (w : Code.LimitedResponseWriter) (h : WFL w) (hf : w.rwFlusher = false) :
    SimL w (Code.limFlush w) (absLim w).ensure := by
  have he := ensure_refines w h
  unfold Code.limFlush
  simp only [he.2.2.2.2.trans hf, Bool.false_eq_true, if_false]
  exact he

def freshLim (limit : Int) : Code.LimitedResponseWriter :=
  { written := 0, limit := limit, limitReached := false, wroteHeader := false, statusCode := 0, out := [], rwFlusher := true }
example : WFL (freshLim 10) := by unfold WFL; decide
/-- a write that does not fit is answered 413 with nothing of the body handed on -/
example : (Code.limWrite (freshLim 3) [1, 2, 3, 4]).1.out = [("WriteHeader", 413)] := rfl
example : (Code.limWrite (Code.limWriteHeader (freshLim 3) 201) [1, 2, 3]).1.out = [("WriteHeader", 201), ("Write", 3)] := rfl

/-! The gzip writer. The model keeps the buffered body as the list of chunks written, the code keeps the bytes: related by
the total length. When the buffer is given up the code hands the buffered bytes on in one `Write`, the model chunk by
chunk: the two call sequences are compared as byte streams (`flat`: a `Write` of n bytes is n bytes). -/

def flat (l : List (String × Int)) : List (Option (String × Int)) :=
  l.flatMap (fun e => if e.1 = "Write" then List.replicate e.2.toNat none else [some e])

theorem flat_append (a b : List (String × Int)) : flat (a ++ b) = flat a ++ flat b := by
  simp [flat]

/-- the buffered chunks, handed on one by one, are as many bytes as the buffer holds -/
theorem flat_chunks (b : Body) :
    flat (((b.filter (·.1 > 0)).map Op.w).map enc) = List.replicate (Body.len b) none := by
  induction b with
  | nil => rfl
  | cons c cs ih =>
    rw [Body.len_cons, ← List.replicate_append_replicate, ← ih]
    by_cases h : c.1 > 0
    · simp [flat, enc, h]
    · simp [flat, Nat.eq_zero_of_not_pos h]

/-- `10485760` is Go's `MaxCompressionBufferSize`, a literal in the translation; `0 ≤ w.statusCode` is the writer's well-formedness, kept in the relation -/
def RelG (w : Code.GzipResponseWriter) (g : Gz) : Prop :=
  g.statusCode = w.statusCode.toNat ∧ g.wroteHeader = w.wroteHeader ∧ g.bufferExceeded = w.bufferExceeded ∧
  g.headerSent = w.headerSent ∧ Body.len g.buf = w.buf.length ∧ g.cap = 10485760 ∧ 0 ≤ w.statusCode

theorem gzCommit_sim (w : Code.GzipResponseWriter) (g : Gz) (h : RelG w g) :
    RelG (Code.gzCommitHeader w) g.commit.2 ∧ (Code.gzCommitHeader w).out = w.out ++ g.commit.1.map enc ∧
    (Code.gzCommitHeader w).buf = w.buf ∧ (Code.gzCommitHeader w).bufferExceeded = w.bufferExceeded ∧
    (Code.gzCommitHeader w).rwFlusher = w.rwFlusher := by
  obtain ⟨h1, h2, h3, h4, h5, h6, h7⟩ := h
  unfold Code.gzCommitHeader Gz.commit RelG
  cases hs : w.headerSent with
  | true => simp [h4, hs, h1, h2, h3, h5, h6, h7]
  | false =>
    cases hw : w.wroteHeader with
    | true => simp [h4, hs, h2, hw, h1, h3, h5, h6, h7, enc, Int.max_eq_left h7]
    | false => simp [h4, hs, h2, hw, h3, h5, h6, enc]

theorem gzWriteHeader_sim (w : Code.GzipResponseWriter) (g : Gz) (h : RelG w g) (code : Int) (hc : 0 ≤ code) :
    RelG (Code.gzWriteHeader w code) (Gz.step g (.wh code.toNat)).2 ∧
    (Code.gzWriteHeader w code).out = w.out ++ (Gz.step g (.wh code.toNat)).1.map enc := by
  obtain ⟨h1, h2, h3, h4, h5, h6, h7⟩ := h
  unfold Code.gzWriteHeader Gz.step RelG
  cases hw : w.wroteHeader with
  | true => simp [h2, hw, h1, h3, h4, h5, h6, h7]
  | false =>
    by_cases hi : 100 ≤ code ∧ code < 200
    · simp [h2, hw, hi, interim_toNat hc, enc, h1, h3, h4, h5, h6, h7, Int.max_eq_left hc]
    · simp [h2, hw, hi, interim_toNat hc, h3, h4, h5, h6, hc]

/-- **the gzip writer's `Write` as written**: buffered while the total stays within the 10 MB cap; on the write that would
pass it the recorded status is committed, the buffered bytes are handed on and then this write, and every later write
directly — the same byte stream as the model's, and the same state. -/
theorem gzWrite_sim (w : Code.GzipResponseWriter) (g : Gz) (h : RelG w g) (b : List Nat) (seed : Nat) :
    RelG (Code.gzWrite w b).1 (Gz.step g (.w (b.length, seed))).2 ∧
    (∃ delta, (Code.gzWrite w b).1.out = w.out ++ delta ∧ flat delta = flat ((Gz.step g (.w (b.length, seed))).1.map enc)) ∧
    (Code.gzWrite w b).2 = ((b.length : Int), none) := by
  obtain ⟨h1, h2, h3, h4, h5, h6, h7⟩ := h
  have hcap : (Int.ofNat w.buf.length + Int.ofNat b.length > 10485760) = (Body.len g.buf + b.length > g.cap) := by
    rw [h5, h6]; exact propext (Int.ofNat_lt (n := 10485760) (m := w.buf.length + b.length))
  unfold Code.gzWrite Gz.step
  simp only [hcap, ← h3]
  cases hx : g.bufferExceeded with
  | true =>
    simp only [Bool.true_or, if_true, Bool.not_true, Bool.false_eq_true, if_false]
    exact ⟨⟨h1, h2, hx, h4, h5, h6, h7⟩, ⟨_, rfl, rfl⟩, rfl⟩
  | false =>
    by_cases hfit : Body.len g.buf + b.length > g.cap
    · simp only [hfit, Bool.false_or, decide_true, if_true, Bool.not_false, Bool.false_eq_true, if_false]
      obtain ⟨⟨d1, d2, -, d4, -, d6, d7⟩, c2, c3, c4, -⟩ := gzCommit_sim { w with bufferExceeded := true }
        { g with bufferExceeded := true } ⟨h1, h2, rfl, h4, h5, h6, h7⟩
      -- the code marks the buffer as given up before it commits the header, the model after
      rw [Gz.commit_exceeded] at d1 d2 d4 d6 c2
      generalize Code.gzCommitHeader { w with bufferExceeded := true } = wc at *
      simp only at c2 c3
      simp only [List.map_append, flat_append, flat_chunks, h5, ← c3]
      -- an empty buffer is not written
      by_cases hpos : Int.ofNat wc.buf.length > 0
      · simp only [hpos, decide_true, if_true]
        exact ⟨⟨d1, d2, c4.symm, d4, rfl, d6, d7⟩,
          ⟨_, by rw [c2, List.append_assoc, List.append_assoc], by simp [flat, enc]⟩, rfl⟩
      · have hz : wc.buf.length = 0 := by simpa using hpos
        simp only [hpos, decide_false, Bool.false_eq_true, if_false]
        exact ⟨⟨d1, d2, c4.symm, d4, hz.symm, d6, d7⟩, ⟨_, by rw [c2, List.append_assoc], by simp [flat, enc, hz]⟩, rfl⟩
    · simp only [hfit, Bool.false_or, decide_false, Bool.false_eq_true, if_false]
      exact ⟨⟨h1, h2, rfl, h4, by simp [Body.len_append, h5], h6, h7⟩, ⟨[], (List.append_nil _).symm, rfl⟩, rfl⟩

theorem gzFlush_sim (w : Code.GzipResponseWriter) (g : Gz) (h : RelG w g) (hf : w.rwFlusher = true) :
    RelG (Code.gzFlush w) (Gz.step g .fl).2 ∧ (Code.gzFlush w).out = w.out ++ (Gz.step g .fl).1.map enc := by
  obtain ⟨h1, h2, h3, h4, h5, h6, h7⟩ := h
  unfold Code.gzFlush Gz.step
  cases hx : w.bufferExceeded with
  | true => simp [h3, hx, hf, enc, RelG, h1, h2, h4, h5, h6, h7]
  | false => simp [h3, hx, RelG, h1, h2, h4, h5, h6, h7]

/-- related to the fresh model writer; a write within the cap stays buffered, status and all -/
def freshGz : Code.GzipResponseWriter :=
  { statusCode := 0, wroteHeader := false, minSize := 0, level := 6, contentTypes := [], buf := [], bufferExceeded := false,
    headerSent := false, out := [], rwFlusher := true }
example : RelG freshGz { minSize := 0, types := [], cap := 10485760 } := by simp [RelG, freshGz, Body.len]
example : (Code.gzWrite (Code.gzWriteHeader freshGz 404) [1, 2, 3]).1.out = [] := rfl

theorem translation_clean_rw :
    (["limEnsureHeaderWritten", "limCheckLimit", "limWrite", "limWriteHeader", "limFlush",
      "gzCommitHeader", "gzWriteHeader", "gzWrite", "gzFlush"].all Code.translated.contains) = true ∧
    (Code.translationProblems.filter (fun p => ["ensureHeaderWritten", "checkLimit", "Write", "WriteHeader", "Flush",
      "commitHeader"].contains p.1)).isEmpty = true := by
  decide +kernel

end Helios.CodeTie
