import Helios.Props.C07
/-
C08 — Circuit breaker liveness: no reachable state locks traffic out forever.
-/
namespace Helios.CB

/-- in-flight requests stamped with the current generation -/
def curInflight (gen : Nat) : List (Nat × Nat) → Nat
  | [] => 0
  | (_, g) :: rest => (if g = gen then 1 else 0) + curInflight gen rest

/-- nothing in flight carries a later generation; in a half-open episode every trial admitted is still in flight
or has succeeded (a failure would have ended the episode), and the episode is not yet won -/
def Inv (c : Cfg) (y : Sys) : Prop :=
  (∀ p ∈ y.inflight, p.2 ≤ y.s.generation) ∧
  (y.s.st = .halfOpen →
    y.s.successCount + curInflight y.s.generation y.inflight = y.s.requestCount ∧
    y.s.successCount < c.successThreshold)

theorem inv_init (c : Cfg) : Inv c {} :=
  ⟨List.forall_mem_nil _, nofun⟩

theorem curInflight_zero_of_lt (gen : Nat) (l : List (Nat × Nat)) (h : ∀ p ∈ l, p.2 < gen) :
    curInflight gen l = 0 := by
  induction l with
  | nil => rfl
  | cons p l ih =>
    have ⟨hp, hl⟩ := List.forall_mem_cons.1 h
    rw [curInflight, if_neg (Nat.ne_of_lt hp), ih hl]

theorem eraseTid_sublist (tid : Nat) (l : List (Nat × Nat)) : (eraseTid tid l).Sublist l := by
  fun_induction eraseTid tid l with
  | case1 => exact .slnil
  | case2 => exact List.sublist_cons_self ..
  | case3 _ _ _ _ ih => exact ih.cons_cons _

theorem curInflight_erase (gen tid gq : Nat) (l : List (Nat × Nat)) (h : lookupTid tid l = some gq) :
    curInflight gen l = (if gq = gen then 1 else 0) + curInflight gen (eraseTid tid l) := by
  fun_induction eraseTid tid l with
  | case1 => cases h
  | case2 => rw [lookupTid, if_pos rfl] at h; cases h; rfl
  | case3 _ _ _ ht ih =>
    rw [lookupTid, if_neg ht] at h
    rw [curInflight, curInflight, ih h, Nat.add_left_comm]

/-- `h1` is what `NewCircuitBreaker`'s defaulting ensures -/
theorem inv_step (c : Cfg) (h1 : 1 ≤ c.successThreshold) (y : Sys) (e : Ev) (hinv : Inv c y) :
    Inv c (step c y e).1 := by
  have ⟨i1, i2⟩ := hinv
  -- what is in flight stays behind when the generation moves on
  have up : ∀ {l : List (Nat × Nat)}, (∀ p ∈ l, p.2 ≤ y.s.generation) → ∀ p ∈ l, p.2 ≤ y.s.generation + 1 :=
    fun h p hp => Nat.le_succ_of_le (h p hp)
  cases e with
  | begin tid now =>
    rw [step]
    split
    · exact hinv
    -- so a new episode starts with none of its own requests in flight
    have hz := curInflight_zero_of_lt (y.s.generation + 1) y.inflight fun p hp => Nat.lt_succ_of_le (i1 p hp)
    -- closed; open, timeout over (`max_requests` zero, non-zero); open, waiting; half-open full, with room
    fun_cases begin c y.s now
    · exact ⟨List.forall_mem_cons.2 ⟨Nat.le_refl _, i1⟩, fun h => nomatch ‹y.s.st = .closed›.symm.trans h⟩
    · exact ⟨up i1, fun _ => ⟨by rw [hz], h1⟩⟩
    · exact ⟨List.forall_mem_cons.2 ⟨Nat.le_refl _, up i1⟩, fun _ => ⟨by simp only [curInflight, hz, if_true], h1⟩⟩
    · exact hinv
    · exact hinv
    · have ⟨hc, hlt⟩ := i2 ‹_›
      exact ⟨List.forall_mem_cons.2 ⟨Nat.le_refl _, i1⟩,
        fun _ => ⟨by rw [curInflight, if_pos rfl, Nat.add_left_comm, hc, Nat.add_comm], hlt⟩⟩
  | end_ tid ok now =>
    rw [step]
    split
    · next gq hl =>
      have j1 := fun p hp => i1 p ((eraseTid_sublist tid y.inflight).subset hp)
      have he := curInflight_erase y.s.generation tid gq y.inflight hl
      -- stale; success: half-open closing, counting, otherwise; failure: closed tripping, closed, half-open, open
      fun_cases end_ c y.s gq ok now
      · rw [he, if_neg ‹_›, Nat.zero_add] at i2
        exact ⟨j1, i2⟩
      · exact ⟨up j1, nofun⟩
      · have ⟨hc, _⟩ := i2 ‹_›
        rw [he, if_pos (Decidable.not_not.1 ‹_›)] at hc
        exact ⟨j1, fun _ => ⟨(Nat.add_assoc ..).trans hc, Nat.not_le.1 ‹_›⟩⟩
      · exact ⟨j1, fun h => absurd h ‹_›⟩
      · exact ⟨up j1, nofun⟩
      · exact ⟨j1, fun h => nomatch ‹y.s.st = .closed›.symm.trans h⟩
      · exact ⟨up j1, nofun⟩
      · exact ⟨j1, fun h => nomatch ‹y.s.st = .open_›.symm.trans h⟩
    · exact hinv

theorem inv_run (c : Cfg) (h1 : 1 ≤ c.successThreshold) (evs : List Ev) : ∀ y, Inv c y → Inv c (run c y evs).1 := by
  induction evs with
  | nil => intro y h; exact h
  | cons e es ih => intro y h; exact ih _ (inv_step c h1 y e h)

theorem Inv.quiet {c : Cfg} {y : Sys} (h : Inv c y) (hq : y.inflight = []) (hst : y.s.st = .halfOpen) :
    y.s.requestCount = y.s.successCount ∧ y.s.successCount < c.successThreshold := by
  have := h.2 hst
  rw [hq] at this
  exact ⟨this.1.symm, this.2⟩

def allAdm (c : Cfg) : State → List (Bool × Nat) → Bool
  | _, [] => true
  | s, (ok, t) :: es =>
    (match (exec c s ok t).2 with | .admitted _ => true | _ => false) && allAdm c (exec c s ok t).1 es

/-- with nothing else in flight, `d` successes arriving from `now` on are all admitted and close the breaker;
the half-open case is `Inv.quiet` with the distance to the threshold; the open case carries `1 ≤ success_threshold`:
with `h2` below, the first trial gets in -/
def ClosesIn (c : Cfg) (now : Nat) (s : State) (d : Nat) : Prop :=
  s.st = .closed ∨
  s.st = .open_ ∧ s.nextAttempt < now ∧ 1 ≤ c.successThreshold ∧ c.successThreshold ≤ d ∨
  s.st = .halfOpen ∧ s.requestCount = s.successCount ∧ s.successCount < c.successThreshold ∧
    c.successThreshold ≤ s.successCount + d

theorem closesIn_zero {c : Cfg} {now : Nat} {s : State} (h : ClosesIn c now s 0) : s.st = .closed := by
  rcases h with h | h | h
  · exact h
  all_goals omega

theorem closesIn_exec {c : Cfg} {now d t : Nat} {s : State} (h2 : c.successThreshold ≤ c.maxRequests)
    (ht : now ≤ t) (h : ClosesIn c now s (d + 1)) :
    (∃ g, (exec c s true t).2 = .admitted g) ∧ ClosesIn c now (exec c s true t).1 d := by
  rcases h with h | ⟨h, hn, h1, hd⟩ | ⟨h, hq, hlt, hd⟩
  · simp [exec, begin, end_, ClosesIn, h]
  · have hm : c.maxRequests ≠ 0 := Nat.ne_of_gt (Nat.lt_of_lt_of_le h1 h2)
    have hn' : s.nextAttempt < t := Nat.lt_of_lt_of_le hn ht
    by_cases hth : c.successThreshold ≤ 1 <;> simp [exec, begin, end_, ClosesIn, h, hn', hm, hth]
    exact ⟨Nat.not_le.1 hth, Nat.add_comm d 1 ▸ hd⟩
  · have hm : ¬ c.maxRequests ≤ s.successCount := Nat.not_le.2 (Nat.lt_of_lt_of_le hlt h2)
    by_cases hth : c.successThreshold ≤ s.successCount + 1 <;>
      simp [exec, begin, end_, ClosesIn, h, hq, hm, hth]
    exact ⟨Nat.not_le.1 hth, Nat.add_right_comm .. ▸ hd⟩

theorem closesIn_runSeq {c : Cfg} {now : Nat} (h2 : c.successThreshold ≤ c.maxRequests) :
    ∀ (es : List (Bool × Nat)) (s : State), (∀ e ∈ es, e.1 = true ∧ now ≤ e.2) → ClosesIn c now s es.length →
      (runSeq c s es).st = .closed ∧ allAdm c s es = true
  | [], _, _, h => ⟨closesIn_zero h, rfl⟩
  | (ok, t) :: es, s, he, h => by
    obtain ⟨⟨rfl, ht⟩, he'⟩ := List.forall_mem_cons.1 he
    obtain ⟨⟨g, hg⟩, h'⟩ := closesIn_exec h2 ht h
    simpa [runSeq, allAdm, hg] using closesIn_runSeq h2 es _ he' h'

/-- **Never stuck.** With `1 ≤ success_threshold ≤ max_requests` (what validation plus defaulting guarantee),
from every reachable breaker state with no request in flight: once the open timeout has elapsed,
`success_threshold` or more successful requests are all admitted and leave the breaker closed. -/
theorem never_stuck (c : Cfg) (h1 : 1 ≤ c.successThreshold) (h2 : c.successThreshold ≤ c.maxRequests)
    (y : Sys) (hinv : Inv c y) (hq : y.inflight = []) (now : Nat)
    (hopen : y.s.st = .open_ → y.s.nextAttempt < now) (n : Nat) (hn : c.successThreshold ≤ n) :
    (runSeq c y.s (List.replicate n (true, now))).st = .closed ∧
    allAdm c y.s (List.replicate n (true, now)) = true := by
  refine closesIn_runSeq (now := now) h2 _ y.s (fun e he => ?_) ?_
  · rw [List.eq_of_mem_replicate he]
    exact ⟨rfl, Nat.le_refl _⟩
  · rw [List.length_replicate]
    cases hst : y.s.st with
    | closed => exact Or.inl hst
    | open_ => exact Or.inr (Or.inl ⟨hst, hopen hst, h1, hn⟩)
    | halfOpen =>
      obtain ⟨hc, hlt⟩ := hinv.quiet hq hst
      exact Or.inr (Or.inr ⟨hst, hc, hlt, Nat.le_trans hn (Nat.le_add_left ..)⟩)

/-- `setupCircuitBreaker` (`max_requests = 0` means `success_threshold`), then `NewCircuitBreaker`'s defaults -/
def effective (ft st mx iv to : Nat) : Cfg :=
  ({ maxRequests := if mx = 0 then (if st = 0 then 1 else st) else mx, interval := iv, timeout := to,
     failureThreshold := ft, successThreshold := st } : Cfg).withDefaults

/-- every configuration the validator accepts yields one meeting the hypotheses of `never_stuck` -/
theorem accepted_config_live (ft st mx iv to : Nat) (hst : 1 ≤ st) (hrel : mx = 0 ∨ st ≤ mx) :
    1 ≤ (effective ft st mx iv to).successThreshold ∧
    (effective ft st mx iv to).successThreshold ≤ (effective ft st mx iv to).maxRequests := by
  have hst0 : st ≠ 0 := Nat.ne_of_gt hst
  simp only [effective, Cfg.withDefaults, if_neg hst0]
  refine ⟨hst, ?_⟩
  by_cases hm : mx = 0
  · rw [if_pos hm, if_neg hst0]
    exact Nat.le_refl _
  · rw [if_neg hm, if_neg hm]
    exact hrel.resolve_left hm

/-! the stuck state of the unrepaired defaults, as a regression witness: one successful trial, then `tooMany` forever -/
private def cStuck : Cfg := { maxRequests := 1, interval := 100, timeout := 50, failureThreshold := 1, successThreshold := 2 }
example : allAdm cStuck (runSeq cStuck {} [(false, 0)]) (List.replicate 2 (true, 51)) = false := by decide
example : (runSeq cStuck {} [(false, 0), (true, 51), (true, 51), (true, 1000)]).st = .halfOpen := by decide
private def cLive : Cfg := effective 1 2 0 100 50
/-- non-vacuity of `never_stuck`: an open state -/
example : Inv cLive { s := runSeq cLive {} [(false, 0)] } ∧ (runSeq cLive {} [(false, 0)]).st = .open_ :=
  ⟨⟨List.forall_mem_nil _, fun h => absurd h (by decide)⟩, by decide⟩

end Helios.CB
