import Helios.Lemmas.Go
/-
Tie C for the header-name check of start-up (C18 / C16): `logging.validHeaderFieldName`, with Go strings as byte strings.
A name is accepted exactly when it is a non-empty RFC 7230 token.
-/
namespace Helios.CodeTie
open Helios.Generated

/-- the punctuation RFC 7230 allows in a token: ! # $ % & ' * + - . ^ _ ` | ~ -/
def tcharPunct : Bytes := [0x21, 0x23, 0x24, 0x25, 0x26, 0x27, 0x2A, 0x2B, 0x2D, 0x2E, 0x5E, 0x5F, 0x60, 0x7C, 0x7E]

def isTchar (c : UInt8) : Bool :=
  ((97 ≤ c && c ≤ 122) || (65 ≤ c && c ≤ 90) || (48 ≤ c && c ≤ 57)) || Bytes.contains c tcharPunct

def isToken (name : Bytes) : Bool := !name.isEmpty && name.all isTchar

theorem strIndexByte_nonneg (l : Bytes) (c : UInt8) : decide (Code.strIndexByte l c ≥ 0) = Bytes.contains c l := by
  unfold Code.strIndexByte Bytes.contains
  cases Bytes.indexOf c l <;> simp

/-- the code asks for a letter or digit first and for the punctuation only then -/
theorem hdr_loop_step (name : Bytes) (fuel i : Nat) (hlt : i < name.length) :
    Code.validHeaderFieldName_loop1 name (fuel + 1) (Int.ofNat i) =
      if isTchar name[i] then Code.validHeaderFieldName_loop1 name fuel (Int.ofNat (i + 1)) else some (.inl false) := by
  have hc : decide ((Int.ofNat i) < (Int.ofNat name.length)) = true := decide_eq_true (Int.ofNat_lt.mpr hlt)
  rw [Code.validHeaderFieldName_loop1, if_pos hc]
  simp only [listGet_ofNat name i hlt, isTchar, ← strIndexByte_nonneg, tcharPunct]
  generalize (decide ((97 : UInt8) ≤ name[i]) && _ || _ || _) = p
  generalize decide (Code.strIndexByte _ name[i] ≥ 0) = q
  cases p <;> rfl

theorem hdr_loop (name : Bytes) : ∀ (n fuel i : Nat), i + n = name.length → n < fuel →
    Code.validHeaderFieldName_loop1 name fuel (Int.ofNat i) =
      if (name.drop i).all isTchar then some (.inr (Int.ofNat name.length)) else some (.inl false) := by
  intro n
  induction n with
  | zero =>
    intro fuel i hi hf
    obtain ⟨fuel, rfl⟩ := fuel_succ hf
    cases (hi : i = name.length)
    rw [Code.validHeaderFieldName_loop1, if_neg fun h => Int.lt_irrefl _ (of_decide_eq_true h), List.drop_length]
    rfl
  | succ n ih =>
    intro fuel i hi hf
    obtain ⟨fuel, rfl⟩ := fuel_succ hf
    have hlt : i < name.length := hi ▸ Nat.lt_add_of_pos_right (Nat.succ_pos n)
    rw [hdr_loop_step name fuel i hlt, ih fuel (i + 1) ((Nat.add_right_comm i 1 n).trans hi) (Nat.lt_of_succ_lt_succ hf),
      List.drop_eq_getElem_cons hlt, List.all_cons]
    cases isTchar name[i] <;> rfl

/-- **`validHeaderFieldName`, as written, accepts exactly the non-empty RFC 7230 tokens**, with any fuel above the length -/
theorem validHeaderFieldName_refines (name : Bytes) (fuel : Nat) (hf : name.length < fuel) :
    Code.validHeaderFieldName fuel name = some (isToken name) := by
  unfold Code.validHeaderFieldName isToken
  cases name with
  | nil => rfl
  | cons a as =>
    have e : ((a :: as : Bytes) == []) = false := rfl
    simp only [e, Bool.false_eq_true, if_false]
    rw [show (0 : Int) = Int.ofNat 0 from rfl, hdr_loop (a :: as) _ fuel 0 (Nat.zero_add _) hf, List.drop_zero]
    cases (a :: as).all isTchar <;> rfl

/-- "X-Request-ID" is accepted, "X Req", "X:Y", "x,y" and the empty name are not -/
example : Code.validHeaderFieldName 20 [88, 45, 82, 101, 113, 117, 101, 115, 116, 45, 73, 68] = some true := by decide
example : Code.validHeaderFieldName 20 [88, 32, 82, 101, 113] = some false := by decide
example : Code.validHeaderFieldName 20 [88, 58, 89] = some false := by decide
example : Code.validHeaderFieldName 20 [120, 44, 121] = some false := by decide
example : Code.validHeaderFieldName 20 [] = some false := by decide

theorem translation_clean_hdr :
    ["validHeaderFieldName"].all (fun f => Code.translated.contains f) = true ∧
    (Code.translationProblems.filter (fun p => ["validHeaderFieldName"].contains p.1)) = [] := by
  decide +kernel

end Helios.CodeTie
