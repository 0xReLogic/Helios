import Helios.Lemmas.Go
import Helios.Model.Pool
/-
Tie C for C20 (pool half) — `WebSocketPool.Get`, `Put`, `Close` and `cleanupBackend` on the per-backend pool object. The
theorems are stated against the pieces of the model's operations (`takeFresh`, `afterGet`, `decActive`, `pushIdle`, the
stale test with the object's own `idleTimeout`), not against `Pool.get/put/close/cleanup`: a change to those does not reach
them. `Get` closes stale connections in the model's order; `cleanupBackend` oldest first, the model's list reversed.

The translation takes the pool object of the backend (`p.pools[backend]`) and whether it exists as parameters and gives
the object back; connections are numbers (0 = nil), `conn.Close()` is an entry of `closedConns`. The Go slice `idle` is
oldest-first and popped from the end; the model's list is most-recent-first: `absIdle` reverses.
-/
namespace Helios.CodeTie
open Helios.Generated

/-- connection, time stamp (ns), backend name; `abs1` drops the name -/
abbrev PC := Nat × Int × String

def abs1 (e : PC) : Nat × Nat := (e.1, e.2.1.toNat)
def absIdle (l : List PC) : List (Nat × Nat) := l.reverse.map abs1
def absCP (pool : Code.ConnPool) : Pool.CP := { idle := absIdle pool.idle, active := pool.active.toNat }

/-- `takeFresh` on the code's entries: a hand-written step between the translated loop and the model, not translated Go -/
def takeFreshGo (timeout now : Int) : List PC → List PC × Option Nat × List Nat
  | [] => ([], none, [])
  | e :: rest =>
    if now - e.2.1 > timeout then
      let r := takeFreshGo timeout now rest
      (r.1, r.2.1, e.1 :: r.2.2)
    else (rest, some e.1, [])

theorem stale_abs {T now u : Int} (hT : 0 ≤ T) (hn : 0 ≤ now) (hu : 0 ≤ u) :
    now.toNat - u.toNat > T.toNat ↔ now - u > T := by
  rw [← Int.toNat_sub'' hn hu]; exact toNat_lt_toNat hT

theorem takeFresh_abs (T now : Int) (hT : 0 ≤ T) (hn : 0 ≤ now) (l : List PC) (hl : ∀ e ∈ l, 0 ≤ e.2.1) :
    Pool.takeFresh T.toNat now.toNat (l.map abs1) =
      ((takeFreshGo T now l).1.map abs1, (takeFreshGo T now l).2.1, (takeFreshGo T now l).2.2) := by
  fun_induction takeFreshGo T now l with
  | case1 => rfl
  | case2 e rest h _ ih =>
    exact (if_pos ((stale_abs hT hn (hl e (List.mem_cons_self ..))).2 h)).trans
      (by rw [ih fun x hx => hl x (List.mem_cons_of_mem _ hx)])
  | case3 e rest h => exact if_neg (mt (stale_abs hT hn (hl e (List.mem_cons_self ..))).1 h)

theorem takeFreshGo_none {T now : Int} {l : List PC} (h : (takeFreshGo T now l).2.1 = none) : (takeFreshGo T now l).1 = [] := by
  fun_induction takeFreshGo T now l with
  | case1 => rfl
  | case2 _ _ _ _ ih => exact ih h
  | case3 => cases h

/-- what the loop of `Get` leaves -/
def getOut (p : Code.WebSocketPool) (pool : Code.ConnPool) (r : List PC × Option Nat × List Nat) :
    Option (Sum (Code.WebSocketPool × Code.ConnPool × Nat) (Code.WebSocketPool × Code.ConnPool)) :=
  match r.2.1 with
  | none => some (.inr ({ p with closedConns := p.closedConns ++ r.2.2 }, { pool with idle := [] }))
  | some c => some (.inl ({ p with closedConns := p.closedConns ++ r.2.2 },
      { pool with idle := r.1.reverse, active := pool.active + 1 }, c))

theorem getLoop_sim (now : Int) (l : List PC) : ∀ (fuel : Nat) (p : Code.WebSocketPool) (pool : Code.ConnPool),
    pool.idle = l.reverse → l.length < fuel →
    Code.poolGet_loop1 now fuel (p, pool) = getOut p pool (takeFreshGo pool.idleTimeout now l) := by
  induction l with
  | nil =>
    intro fuel p pool hi hf
    obtain ⟨fuel, rfl⟩ := fuel_succ hf
    cases pool
    cases hi
    simp [Code.poolGet_loop1, takeFreshGo, getOut]
  | cons x l' ih =>
    intro fuel p pool hi hf
    obtain ⟨fuel, rfl⟩ := fuel_succ hf
    have hi' : pool.idle = l'.reverse ++ [x] := hi.trans List.reverse_cons
    have hpos : (Int.ofNat (l'.reverse ++ [x]).length) > 0 := Int.natCast_pos.mpr (by simp)
    unfold Code.poolGet_loop1
    simp only [hi', hpos, decide_true, if_true, listGet_last, take_dropLast, List.dropLast_concat, takeFreshGo]
    by_cases h : now - x.2.1 > pool.idleTimeout
    · simp only [h, decide_true, if_true]
      rw [ih fuel _ _ rfl (Nat.lt_of_succ_lt_succ hf)]
      unfold getOut
      rw [List.append_assoc]
      rfl
    · simp only [h, decide_false, Bool.false_eq_true, if_false, getOut, List.append_nil]

/-- assumed before each call; no theorem here concludes it afterwards -/
def WFP (pool : Code.ConnPool) : Prop :=
  0 ≤ pool.idleTimeout ∧ 0 ≤ pool.active ∧ ∀ e ∈ pool.idle, 0 ≤ e.2.1

/-- **`Get` as written**: the model's `takeFresh` over the idle list (most recent first) — stale entries closed in that
order, the first fresh one handed out and counted, `nil` (0) when none is left or the backend has no pool object
(fuel: a turn per idle entry, one to exit). -/
theorem get_refines (p : Code.WebSocketPool) (pool : Code.ConnPool) (b : String) (now : Int) (fuel : Nat)
    (hw : WFP pool) (hn : 0 ≤ now) (hf : pool.idle.length < fuel) :
    Code.poolGet fuel p pool b false now = some (p, pool, 0) ∧
    ∃ p' pool' c, Code.poolGet fuel p pool b true now = some (p', pool', c) ∧
      (let r := Pool.takeFresh pool.idleTimeout.toNat now.toNat (absCP pool).idle
       absCP pool' = Pool.afterGet (absCP pool) r ∧ p'.closedConns = p.closedConns ++ r.2.2 ∧ c = r.2.1.getD 0 ∧
       pool'.idleTimeout = pool.idleTimeout ∧ pool'.closed = pool.closed ∧ p'.closed = p.closed ∧ p'.maxIdle = p.maxIdle) := by
  obtain ⟨h1, h2, h3⟩ := hw
  refine ⟨rfl, ?_⟩
  have hl := getLoop_sim now pool.idle.reverse fuel p pool (List.reverse_reverse _).symm (by rwa [List.length_reverse])
  have ha := takeFresh_abs pool.idleTimeout now h1 hn pool.idle.reverse (fun e he => h3 e (List.mem_reverse.mp he))
  have hidle : (absCP pool).idle = pool.idle.reverse.map abs1 := rfl
  unfold Code.poolGet
  simp only [Bool.not_true, Bool.false_eq_true, if_false, hl, getOut]
  rw [hidle, ha]
  cases hr : (takeFreshGo pool.idleTimeout now pool.idle.reverse).2.1 with
  | none =>
    have hnil := takeFreshGo_none hr
    refine ⟨_, _, _, rfl, ?_⟩
    simp [absCP, absIdle, Pool.afterGet, hnil]
  | some c =>
    refine ⟨_, _, _, rfl, ?_⟩
    simp only [absCP, absIdle, Pool.afterGet, List.reverse_reverse, Option.isSome_some, if_true, Option.getD_some, and_true]
    congr 1; exact Int.toNat_add h2 (by decide)

/-- **`Put` as written** (a real connection, neither the pool nor the object shut down): one fewer handed out (never below zero); retained
as the most recent entry when fewer than `max_idle` are held, otherwise closed and refused. A backend seen for the first
time gets an empty pool object (`{}`: `Pool.CP`'s defaults, nothing idle or handed out). -/
theorem put_refines (p : Code.WebSocketPool) (pool : Code.ConnPool) (b : String) (conn : Nat) (ex : Bool) (now : Int)
    (hw : WFP pool) (hn : 0 ≤ now) (hc : conn ≠ 0) (hd : p.closed = false) (hpc : pool.closed = false) (hm : 0 ≤ p.maxIdle) :
    let cp0 : Pool.CP := if ex then absCP pool else {}
    let cp1 : Pool.CP := { cp0 with active := cp0.active - 1 }
    let r := Code.poolPut p pool b conn ex now
    (if cp1.idle.length ≥ p.maxIdle.toNat
     then absCP r.2.1 = cp1 ∧ r.1.closedConns = p.closedConns ++ [conn] ∧ r.2.2 = false
     else absCP r.2.1 = Pool.pushIdle cp1 conn now.toNat ∧ r.1.closedConns = p.closedConns ∧ r.2.2 = true) ∧
    r.2.1.closed = false ∧ r.1.closed = false ∧ r.1.maxIdle = p.maxIdle := by
  have hc' : (conn == 0) = false := beq_false_of_ne hc
  obtain ⟨q, hq, hcp, hr⟩ : ∃ q : Code.ConnPool, q.closed = false ∧ (if ex then absCP pool else {}) = absCP q ∧
      Code.poolPut p pool b conn ex now = Code.poolPut p q b conn true now := by
    cases ex
    · exact ⟨{ (default : Code.ConnPool) with backend := b, idle := [], idleTimeout := p.idleTimeout }, rfl, rfl,
        by unfold Code.poolPut; rw [hc', hd]; rfl⟩
    · exact ⟨pool, hpc, rfl, rfl⟩
  simp only [hcp, hr]
  unfold Code.poolPut
  by_cases ha : q.active > 0
  · by_cases hf : (q.idle.length : Int) ≥ p.maxIdle
    · simp [hc', hd, hq, ha, hf, absCP, absIdle]
    · simp [hc', hd, hq, ha, hf, absCP, absIdle, Pool.pushIdle, abs1]
  · have ha0 := Int.toNat_of_nonpos (Int.not_lt.mp ha)
    by_cases hf : (q.idle.length : Int) ≥ p.maxIdle
    · simp [hc', hd, hq, ha, hf, absCP, absIdle, ha0]
    · simp [hc', hd, hq, ha, hf, absCP, absIdle, Pool.pushIdle, abs1, ha0]

/-- `p.closed`: after `Shutdown` -/
theorem put_down (p : Code.WebSocketPool) (pool : Code.ConnPool) (b : String) (conn : Nat) (ex : Bool) (now : Int)
    (hc : conn ≠ 0) (hd : p.closed = true) :
    Code.poolPut p pool b conn ex now = ({ p with closedConns := p.closedConns ++ [conn] }, pool, false) := by
  unfold Code.poolPut; simp [beq_false_of_ne hc, hd]

theorem put_nil (p : Code.WebSocketPool) (pool : Code.ConnPool) (b : String) (ex : Bool) (now : Int) :
    Code.poolPut p pool b 0 ex now = (p, pool, false) := by
  unfold Code.poolPut; simp

/-- **`Close` as written**: the connection is closed and the backend's count, if it has one, drops, never below zero -/
theorem close_refines (p : Code.WebSocketPool) (pool : Code.ConnPool) (b : String) (conn : Nat) (hc : conn ≠ 0) (hw : WFP pool) :
    (Code.poolClose p pool b conn false) = ({ p with closedConns := p.closedConns ++ [conn] }, pool) ∧
    (Code.poolClose p pool b conn true).1 = { p with closedConns := p.closedConns ++ [conn] } ∧
    absCP (Code.poolClose p pool b conn true).2 = Pool.decActive (absCP pool) ∧
    (Code.poolClose p pool b conn true).2.idle = pool.idle := by
  unfold Code.poolClose
  by_cases ha : pool.active > 0
  · simp [hc, ha, absCP, Pool.decActive]
  · simp [hc, ha, absCP, Pool.decActive, Int.toNat_of_nonpos (Int.not_lt.mp ha)]

theorem cleanupLoop_sim (now : Int) (l : List PC) : ∀ (i : Int) (p : Code.WebSocketPool) (pool : Code.ConnPool) (valid : List PC) (n : Int),
    Code.poolCleanupBackend_range1 now l i (p, pool, valid, n) =
      .inr ({ p with closedConns := p.closedConns ++ (l.filter (fun e => decide (now - e.2.1 > pool.idleTimeout))).map (·.1) }, pool,
            valid ++ l.filter (fun e => !decide (now - e.2.1 > pool.idleTimeout)),
            n + (l.filter (fun e => decide (now - e.2.1 > pool.idleTimeout))).length) := by
  induction l with
  | nil => intro i p pool valid n; cases p; simp [Code.poolCleanupBackend_range1]
  | cons e l ih =>
    intro i p pool valid n
    unfold Code.poolCleanupBackend_range1
    simp only [ih, List.filter_cons]
    by_cases h : now - e.2.1 > pool.idleTimeout
    · simp [h, Int.add_assoc, Int.add_comm 1]
    · simp [h]

/-- **`cleanupBackend` as written**: the pool object keeps exactly its fresh entries, in order; the
stale ones are closed -/
theorem cleanup_refines (p : Code.WebSocketPool) (pool : Code.ConnPool) (b : String) (now : Int) (hw : WFP pool) (hn : 0 ≤ now) :
    Code.poolCleanupBackend p pool b false now = (p, pool) ∧
    (let r := Code.poolCleanupBackend p pool b true now
     let stale := fun (cu : Nat × Nat) => decide (now.toNat - cu.2 > pool.idleTimeout.toNat)
     (absCP r.2).idle = (absCP pool).idle.filter (fun cu => !stale cu) ∧
     (absCP r.2).active = (absCP pool).active ∧
     r.1.closedConns = p.closedConns ++ (((absCP pool).idle.filter stale).map (·.1)).reverse) := by
  obtain ⟨h1, h2, h3⟩ := hw
  refine ⟨rfl, ?_⟩
  have hst : ∀ e ∈ pool.idle, decide (now.toNat - (abs1 e).2 > pool.idleTimeout.toNat) = decide (now - e.2.1 > pool.idleTimeout) :=
    fun e he => decide_eq_decide.mpr (stale_abs h1 hn (h3 e he))
  unfold Code.poolCleanupBackend
  simp only [Bool.not_true, Bool.false_eq_true, if_false, cleanupLoop_sim, List.nil_append, ite_self, absCP, absIdle]
  refine ⟨?_, trivial, ?_⟩
  · rw [← List.filter_reverse, List.filter_map]
    exact congrArg _ (List.filter_congr fun e he => by simp only [Function.comp, hst e (List.mem_reverse.mp he)])
  · congr 1
    rw [List.filter_map, List.map_map, ← List.map_reverse, ← List.filter_reverse, List.reverse_reverse]
    exact congrArg _ (List.filter_congr hst).symm

def samplePool : Code.ConnPool := { backend := "b", idle := [(7, 90, "b"), (8, 10, "b")], active := 0, idleTimeout := 50, closed := false }
def sampleWS : Code.WebSocketPool := { pools := fun _ => true, maxIdle := 2, maxActive := 10, idleTimeout := 50, closed := false, closedConns := [] }
example : WFP samplePool := by unfold WFP; decide
/-- the entry `Get` looks at first carries the older stamp: `Get` closes it as stale and hands out the other -/
example : (Code.poolGet 5 sampleWS samplePool "b" true 100).map (fun r => (r.1.closedConns, r.2.1.idle, r.2.2)) =
    some ([8], [], 7) := rfl
example : (Code.poolPut sampleWS samplePool "b" 9 true 100).2.2 = false := rfl

theorem translation_clean_pool :
    (["poolGet", "poolPut", "poolClose", "poolCleanupBackend"].all Code.translated.contains) = true ∧
    (Code.translationProblems.filter (fun p => ["Get", "Put", "Close", "cleanupBackend"].contains p.1)).isEmpty = true := by
  decide +kernel

end Helios.CodeTie
