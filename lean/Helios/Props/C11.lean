import Helios.Lemmas.LBFrame
/-
C11 — Runtime reconfiguration is atomic and consistent under traffic.
Each admin operation holds the balancer's write lock for its whole body (lock-set fact, re-derived
from the source), so it is one atomic step `LB.add / LB.remove / LB.setStrategy`.
-/
namespace Helios.LB

/-- the externally visible backend set: what `/v1/backends` lists -/
def listing (y : Sys) : List (String × Nat × Bool × Int) :=
  y.pool.map (fun o => (o.b.name, o.b.weight, o.b.healthy, o.b.conns))

def names (y : Sys) : List String := y.pool.map (·.b.name)

/-- backend names are unique (established by `add`, kept by everything else) -/
def NodupNames (y : Sys) : Prop := (names y).Nodup

/-- **add**: once it returns success the backend is listed, with the normalised weight, and
eligible for traffic at any time. -/
theorem add_listed_eligible (y : Sys) (n : String) (w : Int) (h : (add y n w true).2 = true) :
    ∃ o ∈ (add y n w true).1.pool, o.b.name = n ∧ o.b.weight = normWeight w ∧ ∀ now, o.b.eligible now = true := by
  rcases add_cases y n w true with e | ⟨_, e⟩
  · rw [e] at h; cases h
  · rw [e]; exact ⟨newObj y n w, List.mem_concat_self, rfl, rfl, fun _ => rfl⟩

/-- **failed add changes nothing**: unparsable address or a name already in use. -/
theorem add_failed_noop (y : Sys) (n : String) (w : Int) (a : Bool) (h : (add y n w a).2 = false) :
    (add y n w a).1 = y := by
  rcases add_cases y n w a with e | ⟨_, e⟩
  · rw [e]
  · rw [e] at h; cases h

theorem nodup_names_snoc {l : List Obj} {o : Obj} (hno : ∀ x ∈ l, x.b.name ≠ o.b.name)
    (h : (l.map (·.b.name)).Nodup) : ((l ++ [o]).map (·.b.name)).Nodup := by
  rw [List.map_append, List.nodup_append]
  refine ⟨h, by simp, fun a ha b hb => ?_⟩
  obtain ⟨x, hx, rfl⟩ := List.mem_map.mp ha
  rw [List.mem_singleton.mp hb]; exact hno x hx

theorem add_nodup (y : Sys) (n : String) (w : Int) (a : Bool) (h : NodupNames y) :
    NodupNames (add y n w a).1 := by
  rcases add_cases y n w a with e | ⟨hno, e⟩ <;> rw [e]
  · exact h
  · exact nodup_names_snoc hno h

theorem remove_nodup (y : Sys) (n : String) (h : NodupNames y) : NodupNames (remove y n) := by
  rcases remove_cases y n with ⟨_, e⟩ | ⟨o, _, _, hp, e⟩ <;> rw [e]
  · exact h
  · exact (List.nodup_cons.mp ((hp.map _).nodup_iff.mpr h)).2

/-- **remove**: once it returns, no backend of that name is listed (hence none can be chosen). -/
theorem remove_absent_after (y : Sys) (n : String) (h : NodupNames y) :
    ∀ o ∈ (remove y n).pool, o.b.name ≠ n := by
  rcases remove_cases y n with ⟨hno, e⟩ | ⟨o, _, hn, hp, e⟩ <;> rw [e]
  · exact hno
  · -- the removed object was the only one of that name
    exact fun o' ho' e => (List.nodup_cons.mp ((hp.map _).nodup_iff.mpr h)).1
      (List.mem_map.mpr ⟨o', ho', e.trans hn.symm⟩)

/-- **remove** leaves every other backend in place. -/
theorem remove_keeps_others (y : Sys) (n : String) (o : Obj) (ho : o ∈ y.pool) (hne : o.b.name ≠ n) :
    o ∈ (remove y n).pool := by
  rcases remove_cases y n with ⟨_, e⟩ | ⟨o', _, hn, hp, e⟩ <;> rw [e]
  · exact ho
  · exact (List.mem_cons.mp (hp.mem_iff.mpr ho)).resolve_left fun e => hne (e ▸ hn)

/-- **strategy switch**: the same backends in the same order, with weights, health state and gauges. -/
theorem switch_preserves (y : Sys) (s : String) :
    listing (setStrategy y s).1 = listing y ∧
    (setStrategy y s).1.pool.map (·.b.until_) = y.pool.map (·.b.until_) ∧
    (setStrategy y s).1.pool.map (·.id) = y.pool.map (·.id) := by
  rcases setStrategy_cases y s with e | ⟨k, e⟩ <;> rw [e]
  · exact ⟨rfl, rfl, rfl⟩
  · simp [listing, List.map_map, Function.comp]

/-- **failed switch changes nothing** (unknown strategy name). -/
theorem switch_failed_noop (y : Sys) (s : String) (h : (setStrategy y s).2 = false) :
    (setStrategy y s).1 = y := by
  rcases setStrategy_cases y s with e | ⟨k, e⟩
  · rw [e]
  · rw [e] at h; cases h

theorem strategy_names (s : String) : (kindOfName s).isSome ↔
    s = "round_robin" ∨ s = "least_connections" ∨ s = "weighted_round_robin" ∨ s = "ip_hash" ∨ s = "ip_hash_consistent" := by
  fun_cases kindOfName s <;> simp_all

private def hc0 : HC := { passive := false, threshold := 1, ejectFor := 1 }
private def y0 : Sys := { kind := .rr, hc := hc0 }
example : names (remove (add (add (add y0 "a" 1 true).1 "b" 0 true).1 "c" 5 true).1 "a") = ["c", "b"] := by decide
/-- a duplicate add is refused (was: accepted, and `remove` then left one behind) -/
example : (add (add y0 "dup" 1 true).1 "dup" 1 true).2 = false := by decide

end Helios.LB
