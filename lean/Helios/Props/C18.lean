import Helios.Model.Config
import Helios.Lemmas.Rules
/-
C18 — Configuration loading: rejects exactly the invalid, accepts all documented forms.
-/
namespace Helios.Cfg

theorem validate_fv (c : Config) : validate c = CodeTie.fv (rules c) := rfl

theorem tooLong_false {v : Int} : tooLong v = false ↔ v ≤ maxSeconds :=
  decide_eq_false_iff_not.trans Int.not_lt
theorem portBad_false {p : Int} : portBad p = false ↔ 1 ≤ p ∧ p ≤ 65535 := by
  simp only [portBad, Bool.or_eq_false_iff, decide_eq_false_iff_not, Int.not_le, Int.not_lt]; rfl
theorem enum_false {s : String} {l : List String} : (s != "" && !l.contains s) = false ↔ s = "" ∨ s ∈ l := by
  simp only [Bool.and_eq_false_imp, bne_iff_ne, Bool.not_eq_false', List.contains_iff_mem,
    Decidable.or_iff_not_imp_left]

theorem backendRules_none (bs : List Backend) :
    af (backendRules bs) ↔ ∀ b ∈ bs, b.name ≠ "" ∧ b.address ≠ "" ∧ 0 ≤ b.weight := by
  induction bs with
  | nil => exact iff_of_true af_nil (List.forall_mem_nil _)
  | cons b bs ih =>
    simp only [backendRules, af_append, af_cons, af_nil, and_true, ih, List.forall_mem_cons, beq_eq_false_iff_ne,
      decide_eq_false_iff_not, Int.not_lt]

/-! Section by section, rules and documented constraint are brought to one form: an implication
`on = true → …` per rule (`Bool.and_eq_false_imp` on the rules, `imp_and` on the constraint). -/

theorem sServer (c : Config) : af (rServer c) ↔ DServer c := by
  simp only [rServer, DServer, af_cons, af_nil, and_true, portBad_false, Bool.and_eq_false_imp, beq_eq_false_iff_ne,
    imp_and]

theorem sTimeouts (c : Config) : af (rTimeouts c) ↔ DTimeouts c := by
  simp only [rTimeouts, DTimeouts, af_cons, af_nil, and_true, decide_eq_false_iff_not, Int.not_lt]

theorem sLB (c : Config) : af (rLB c) ↔ DLB c := by
  -- `↓`: before `Bool.and_eq_false_imp` takes the strategy rule apart
  simp only [rLB, DLB, af_cons, af_nil, and_true, ↓enum_false, Bool.and_eq_false_imp, Bool.and_eq_true, and_imp,
    decide_eq_true_eq, decide_eq_false_iff_not, Int.not_lt, imp_and]

theorem sHealth (c : Config) : af (rHealth c) ↔ DHealth c := by
  simp only [rHealth, DHealth, af_cons, af_nil, and_true, Bool.and_eq_false_imp, decide_eq_false_iff_not, Int.not_le,
    beq_eq_false_iff_ne, imp_and, and_assoc]

theorem sRL (c : Config) : af (rRL c) ↔ DRL c := by
  simp only [rRL, DRL, af_cons, af_nil, and_true, Bool.and_eq_false_imp, decide_eq_false_iff_not, Int.not_le, imp_and]

theorem sCB (c : Config) : af (rCB c) ↔ DCB c := by
  simp only [rCB, DCB, af_cons, af_nil, and_true, Bool.and_eq_false_imp, Bool.and_eq_true, and_imp,
    decide_eq_true_eq, decide_eq_false_iff_not, Int.not_lt, Int.not_le, imp_and]

theorem sMetrics (c : Config) : af (rMetrics c) ↔ DMetrics c := by
  simp only [rMetrics, DMetrics, af_cons, af_nil, and_true, Bool.and_eq_false_imp, portBad_false,
    beq_eq_false_iff_ne, Bool.not_eq_false', imp_and]

theorem sAdmin (c : Config) : af (rAdmin c) ↔ DAdmin c := by
  simp only [rAdmin, DAdmin, af_cons, af_nil, and_true, Bool.and_eq_false_imp, portBad_false]

theorem sLog (c : Config) : af (rLog c) ↔ DLog c := by
  simp only [rLog, DLog, af_cons, af_nil, and_true, enum_false]

theorem sRanges (c : Config) : af (rRanges c) ↔ DRanges c := by
  simp only [rRanges, DRanges, af_cons, af_nil, and_true, Bool.and_eq_false_imp, tooLong_false,
    decide_eq_false_iff_not, Int.not_lt, imp_and, and_assoc]

/-- **Rejects exactly the invalid.** Loading succeeds iff every documented constraint holds. -/
theorem validate_iff_documented (c : Config) : validate c = none ↔ Documented c := by
  rw [validate_fv, CodeTie.fv_eq_none]
  simp only [rules, Documented, DBackends, af_append, af_cons, af_nil, and_true, backendRules_none, sServer, sTimeouts,
    sLB, sHealth, sRL, sCB, sMetrics, sAdmin, sLog, sRanges, List.isEmpty_eq_false_iff, and_assoc]

theorem Documented.timeouts {c : Config} (d : Documented c) : DTimeouts c := d.2.2.1
theorem Documented.lb {c : Config} (d : Documented c) : DLB c := d.2.2.2.1
theorem Documented.health {c : Config} (d : Documented c) : DHealth c := d.2.2.2.2.1
theorem Documented.rl {c : Config} (d : Documented c) : DRL c := d.2.2.2.2.2.1
theorem Documented.cb {c : Config} (d : Documented c) : DCB c := d.2.2.2.2.2.2.1
theorem Documented.ranges {c : Config} (d : Documented c) : DRanges c := d.2.2.2.2.2.2.2.2.2.2

/-- the validator reports the *first* violated rule, in the documented section order -/
theorem validate_first (c : Config) (n : Nat) (h : validate c = some n) :
    ∃ pre post, rules c = pre ++ (true, n) :: post ∧ af pre := CodeTie.fv_eq_some h

/-- the hypotheses of `CB.accepted_config_live` (C08; there as naturals) -/
theorem accepted_breaker_live (c : Config) (h : validate c = none) (hon : c.cbOn = true) :
    1 ≤ c.cbSuccess ∧ (c.cbMax = 0 ∨ c.cbSuccess ≤ c.cbMax) := by
  obtain ⟨_, s, _, _, m, sm⟩ := ((validate_iff_documented c).mp h).cb hon
  exact ⟨s, (Int.le_iff_eq_or_lt.1 m).imp Eq.symm sm⟩

theorem ns_fits {v : Int} (h0 : 0 ≤ v) (h1 : v ≤ maxSeconds) :
    0 ≤ v * 1000000000 ∧ v * 1000000000 < 9223372036854775808 := by
  unfold maxSeconds at h1; omega

theorem ns_fits_pos {v : Int} (h0 : 0 < v) (h1 : v ≤ maxSeconds) :
    0 < v * 1000000000 ∧ v * 1000000000 < 9223372036854775808 :=
  ⟨Int.mul_pos h0 (by decide), (ns_fits (Int.le_of_lt h0) h1).2⟩

theorem u32_fits {v : Int} (h0 : 0 ≤ v) (h1 : v ≤ maxU32) : v % 4294967296 = v :=
  Int.emod_eq_of_lt h0 (Int.lt_of_le_of_lt h1 (by decide))

/-- **Accepted values survive their conversions.** For an accepted configuration the eight server timeouts and the
passive, limiter and breaker durations (seconds to an `int64` of nanoseconds) and the breaker counts (`uint32`) do
not wrap; `wsIdleTimeout`, `actInterval`, `actTimeout` are not covered. -/
theorem accepted_values_fit (c : Config) (h : validate c = none) :
    (∀ v ∈ [c.tRead, c.tWrite, c.tIdle, c.tHandler, c.tShutdown, c.tDial, c.tBRead, c.tBIdle],
        0 ≤ v * 1000000000 ∧ v * 1000000000 < 9223372036854775808) ∧
    (c.pasOn = true → 0 < c.pasTimeout * 1000000000 ∧ c.pasTimeout * 1000000000 < 9223372036854775808) ∧
    (c.rlOn = true → 0 < c.rlRefill * 1000000000 ∧ c.rlRefill * 1000000000 < 9223372036854775808) ∧
    (c.cbOn = true →
        (0 < c.cbInterval * 1000000000 ∧ c.cbInterval * 1000000000 < 9223372036854775808) ∧
        (0 < c.cbTimeout * 1000000000 ∧ c.cbTimeout * 1000000000 < 9223372036854775808) ∧
        c.cbMax % 4294967296 = c.cbMax ∧ c.cbFailure % 4294967296 = c.cbFailure ∧
        c.cbSuccess % 4294967296 = c.cbSuccess) := by
  have d := (validate_iff_documented c).mp h
  obtain ⟨t1, t2, t3, t4, t5, t6, t7, t8⟩ := d.timeouts
  obtain ⟨⟨s1, s2, s3, s4, s5, s6, s7, s8⟩, _, _, hp, hl, hc⟩ := d.ranges
  refine ⟨?_, fun on => ns_fits_pos (d.health.2 on).2 (hp on), fun on => ns_fits_pos (d.rl on).2 (hl on), fun on => ?_⟩
  · simp only [List.mem_cons, List.mem_nil_iff, or_false, forall_eq_or_imp, forall_eq]
    exact ⟨ns_fits t1 s1, ns_fits t2 s2, ns_fits t3 s3, ns_fits t4 s4, ns_fits t5 s5, ns_fits t6 s6, ns_fits t7 s7,
      ns_fits t8 s8⟩
  · obtain ⟨f, s, t, i, m, _⟩ := d.cb on
    obtain ⟨ri, rt, rm, rf, rs⟩ := hc on
    exact ⟨ns_fits_pos i ri, ns_fits_pos t rt, u32_fits m rm, u32_fits (Int.le_of_lt f) rf, u32_fits (Int.le_of_lt s) rs⟩

/-! a sample configuration after helios.yaml -/
private def shipped : Config :=
  { backends := [⟨"server1", "http://localhost:8081", 5⟩, ⟨"server2", "http://localhost:8082", 2⟩, ⟨"server3", "http://localhost:8083", 1⟩],
    port := 8080, tlsOn := false, tlsCert := "certs/cert.pem", tlsKey := "certs/key.pem",
    tRead := 15, tWrite := 15, tIdle := 60, tHandler := 30, tShutdown := 30, tDial := 10, tBRead := 30, tBIdle := 90,
    strategy := "round_robin", wsOn := true, wsMaxIdle := 10, wsMaxActive := 100, wsIdleTimeout := 300,
    actOn := true, actInterval := 10, actTimeout := 5, actPath := "/health", pasOn := true, pasThreshold := 3, pasTimeout := 30,
    rlOn := true, rlMax := 100, rlRefill := 1, cbOn := true, cbMax := 5, cbInterval := 60, cbTimeout := 60, cbFailure := 5, cbSuccess := 2,
    metOn := true, metPort := 9090, metPath := "/metrics", admOn := true, admPort := 9091, logLevel := "info", logFormat := "text" }
example : validate shipped = none := by decide +kernel
example : validate { shipped with logFormat := "xml" } = some 39 := by decide +kernel
example : validate { shipped with backends := [], port := 0 } = some 1 := by decide

end Helios.Cfg
