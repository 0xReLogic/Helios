import Helios.Lemmas.Abs
import Helios.Props.CodeHash
import Helios.Lemmas.Strategy
/-
Tie C for the client-address code (C02/C06/C09): `utils.GetClientIP` and `NextBackend` of the two hash strategies, with
Go strings read as byte strings. The standard-library functions they call stand as their models (`net.SplitHostPort` =
`Addr.splitHost`, `strings.TrimSpace` = `Addr.trimSpace`, `hash/fnv.New32a` = `Hash.fnv1a`), tied to the Go functions by
the differential checks and not by proof; what Helios wrote around them is covered for every input.
-/
namespace Helios.CodeTie
open Helios.Generated

theorem bne_nil {α : Type} [BEq α] (l : List α) : (l != ([] : List α)) = !l.isEmpty := by
  cases l <;> rfl

/-- **GetClientIP, as written, is the model's `clientIP`** (the limiter's bucket key) -/
theorem GetClientIP_refines (xff xri remote : Bytes) :
    Code.GetClientIP xff xri remote = Addr.clientIP ⟨xff, xri, remote⟩ := by
  unfold Code.GetClientIP Addr.clientIP Code.strIndexByte
  cases xff with
  | nil =>
    cases xri with
    | nil => dsimp only; cases Addr.splitHost remote <;> rfl
    | cons a as => rfl
  | cons a as =>
    dsimp only [Bytes.comma]
    -- no comma, a comma at position 0 (`idx > 0` fails: the whole value), a comma further on
    cases Bytes.indexOf 44 (a :: as) with
    | none => rfl
    | some i => cases i with
      | zero => rfl
      | succ i => simp

/-- `if strings.Contains(s, ",") { s = strings.Split(s, ",")[0] }` is the model's `firstField` -/
theorem first_field_eq (s : Bytes) :
    (if Bytes.contains 0x2C s then Code.strSplitFirst s 0x2C else s) = Addr.firstField s := by
  unfold Bytes.contains Code.strSplitFirst Addr.firstField Bytes.comma
  cases Bytes.indexOf 44 s <;> rfl

/-- the translation repeats the rest `K` of `NextBackend` once for each source of the address; here it is once, on
the model's `strategyKey`. The users spell `K` as generated: any other spelling (after a change to the Go) makes the
unifier evaluate `fnv1a`: a time-out, not a mismatch. -/
theorem key_cases {β : Type} (K : Bytes → β) (xff xri remote : Bytes) :
    (let ipStr := if (xff == ([] : Bytes)) then xri else xff
     if (ipStr == ([] : Bytes)) then
       if (if (Addr.splitHost remote).isSome then (none : Option (String × List String)) else some ("net.SplitHostPort", [])).isSome
       then K (Addr.firstField remote)
       else K (Addr.firstField ((Addr.splitHost remote).getD []))
     else K (Addr.firstField ipStr))
    = K (Addr.strategyKey ⟨xff, xri, remote⟩) := by
  unfold Addr.strategyKey
  cases xff with
  | cons a as => rfl
  | nil =>
    cases xri with
    | cons a as => rfl
    | nil => cases Addr.splitHost remote <;> rfl

/-- the key the code hashes: which of the three sources, then the text before the first comma -/
theorem key_refines (xff xri remote : Bytes) :
    (let ipStr := if (xff == ([] : Bytes)) then xri else xff
     let ipStr := if (ipStr == ([] : Bytes)) then
        (if (if (Addr.splitHost remote).isSome then (none : Option (String × List String)) else some ("net.SplitHostPort", [])).isSome
          then remote else (Addr.splitHost remote).getD [])
        else ipStr
     if Bytes.contains 0x2C ipStr then Code.strSplitFirst ipStr 0x2C else ipStr)
    = Addr.strategyKey ⟨xff, xri, remote⟩ := by
  refine Eq.trans ?_ (key_cases id xff xri remote)
  simp only [id, first_field_eq, apply_ite Addr.firstField]

/-- Go's local `healthyBackends`: the eligible entries, in pool order -/
def healthyOf (bs : List Code.Backend) (now : Int) : List Code.Backend := bs.filter (fun b => (Code.eligible b now).2)

theorem ipNext_eq (s : Code.IPHashStrategy) (xff xri remote : Bytes) (now : Int) :
    Code.ipNextBackend s xff xri remote now = (s, (healthyOf s.backends now)[
      (Hash.fnv1a (Addr.strategyKey ⟨xff, xri, remote⟩)).toNat % (healthyOf s.backends now).length]?) := by
  have hle : (healthyOf s.backends now).length ≤ s.backends.length := List.length_filter_le _ _
  have hr : Code.ipNextBackend_range1 s now s.backends 0 [] = .inr (healthyOf s.backends now) :=
    range_filter _ _ (fun _ _ => rfl) (fun _ _ _ _ => rfl) ..
  unfold Code.ipNextBackend
  simp only [hr, first_field_eq, List.nil_append, len_beq_zero, List.isEmpty_iff_length_eq_zero]
  by_cases h1 : (healthyOf s.backends now).length = 0
  · simp [List.length_eq_zero_iff.mp h1]
  · have h0 : s.backends.length ≠ 0 := fun h => h1 (Nat.le_zero.mp (h ▸ hle))
    simp only [h0, h1, if_false]
    refine (key_cases (fun key => (s, some (Code.listGet (healthyOf s.backends now)
      (Int.toNat (Int.ofNat ((Hash.fnv1a key).toNat % Int.toNat (Int.ofNat (healthyOf s.backends now).length))))))) xff xri remote).trans ?_
    rw [List.getElem?_eq_getElem (Nat.mod_lt _ (Nat.pos_of_ne_zero h1))]
    exact congrArg (fun b => (s, some b)) (listGet_ofNat _ _ _)

/-- the translated `jumpHash`, on the hash widened to 64 bits and the eligible count narrowed to `int32`, returns what the
model's does -/
theorem ipc_jump (healthy : List Code.Backend) (x : UInt32) (hne : healthy.length ≠ 0)
    (hsmall : healthy.length < 2147483648) (fuel : Nat) (hf : healthy.length < fuel) :
    ∃ r, Code.jumpHash fuel (UInt64.ofNat x.toNat) (Int32.ofInt (Int.ofNat healthy.length)) = some r ∧
      r.toInt = Hash.jumpHash (UInt64.ofNat x.toNat) healthy.length := by
  have hn : (Int32.ofInt (Int.ofNat healthy.length)).toInt = healthy.length :=
    Int32.toInt_ofInt_of_le (Int.le_trans (by decide) (Int.natCast_nonneg _)) (Int.ofNat_lt.mpr hsmall)
  have := jumpHash_refines (UInt64.ofNat x.toNat) (Int32.ofInt (Int.ofNat healthy.length))
    (hn ▸ Int.natCast_pos.mpr (Nat.pos_of_ne_zero hne)) fuel (by rwa [hn])
  rwa [hn] at this

theorem ipc_some (healthy : List Code.Backend) (x : UInt32) (hne : healthy.length ≠ 0)
    (hsmall : healthy.length < 2147483648) (fuel : Nat) (hf : healthy.length < fuel) :
    Code.jumpHash fuel (UInt64.ofNat x.toNat) (Int32.ofInt (Int.ofNat healthy.length)) ≠ none := by
  obtain ⟨r, h, _⟩ := ipc_jump healthy x hne hsmall fuel hf
  rw [h]; exact Option.some_ne_none r

/-- what it returns indexes the eligible sub-slice where the model's `jumpHash` says -/
theorem ipc_val (healthy : List Code.Backend) (x : UInt32) (hne : healthy.length ≠ 0)
    (hsmall : healthy.length < 2147483648) (fuel : Nat) (hf : healthy.length < fuel) (r : Int32)
    (hr : Code.jumpHash fuel (UInt64.ofNat x.toNat) (Int32.ofInt (Int.ofNat healthy.length)) = some r) :
    some (Code.listGet healthy (Int.toNat (Int32.toInt r))) = healthy[(Hash.jumpHash x.toUInt64 healthy.length).toNat]? := by
  obtain ⟨r', h1, h2⟩ := ipc_jump healthy x hne hsmall fuel hf
  cases h1.symm.trans hr
  have hlt := Hash.jump_toNat_lt x.toUInt64 healthy.length (Nat.pos_of_ne_zero hne)
  rw [h2, UInt64.ofNat_uInt32ToNat, listGet_lt _ _ hlt, List.getElem?_eq_getElem hlt]

theorem ipcNext_eq {s : Code.IPHashConsistentStrategy} {xff xri remote : Bytes} {now : Int}
    (hsmall : s.backends.length < 2147483648) {fuel : Nat} (hf : s.backends.length < fuel) :
    Code.ipcNextBackend fuel s xff xri remote now = some (s, (healthyOf s.backends now)[(Hash.jumpHash
      (Hash.fnv1a (Addr.strategyKey ⟨xff, xri, remote⟩)).toUInt64 (healthyOf s.backends now).length).toNat]?) := by
  have hle : (healthyOf s.backends now).length ≤ s.backends.length := List.length_filter_le _ _
  have hr : Code.ipcNextBackend_range1 s now s.backends 0 [] = .inr (healthyOf s.backends now) :=
    range_filter _ _ (fun _ _ => rfl) (fun _ _ _ _ => rfl) ..
  unfold Code.ipcNextBackend
  simp only [hr, first_field_eq, List.nil_append, len_beq_zero, List.isEmpty_iff_length_eq_zero]
  by_cases h1 : (healthyOf s.backends now).length = 0
  · simp [List.length_eq_zero_iff.mp h1]
  · have h0 : s.backends.length ≠ 0 := fun h => h1 (Nat.le_zero.mp (h ▸ hle))
    simp only [h0, h1, if_false]
    refine (key_cases (fun key =>
      match Code.jumpHash fuel (UInt64.ofNat (Hash.fnv1a key).toNat) (Int32.ofInt (Int.ofNat (healthyOf s.backends now).length)) with
      | none => none
      | some index_ => some (s, some (Code.listGet (healthyOf s.backends now) (Int.toNat (Int32.toInt index_))))) xff xri remote).trans ?_
    have hs := Nat.lt_of_le_of_lt hle hsmall
    have hfu := Nat.lt_of_le_of_lt hle hf
    split
    · rename_i hnone; exact absurd hnone (ipc_some _ _ h1 hs fuel hfu)
    · rename_i r hsome; rw [ipc_val _ _ h1 hs fuel hfu r hsome]

theorem eligibleIdx_cons (b : LB.Backend) (pool : List LB.Backend) (now : Nat) :
    LB.eligibleIdx (b :: pool) now =
      (if b.eligible now then [0] else []) ++ (LB.eligibleIdx pool now).map (· + 1) := by
  unfold LB.eligibleIdx
  rw [List.length_cons, List.range_succ_eq_map, List.filter_cons, List.filter_map]
  show (if b.eligible now = true then _ else _) = _
  cases b.eligible now <;> rfl

theorem healthy_is_eligibleIdx (bs : List Code.Backend) (now : Int) (hn : 0 ≤ now) (hu : ∀ b ∈ bs, 0 ≤ b.UnhealthyUntil) :
    (LB.eligibleIdx (absPool bs) now.toNat).map (bs[·]?) = (healthyOf bs now).map some := by
  induction bs with
  | nil => rfl
  | cons b bs ih =>
    obtain ⟨hb, hu⟩ := List.forall_mem_cons.mp hu
    have hb : (Code.eligible b now).2 = _ := (eligible_abs b 0 now hb).symm
    rw [show absPool (b :: bs) = absBackend b 0 :: absPool bs from rfl, eligibleIdx_cons, List.map_append, List.map_map,
      healthyOf, List.filter_cons, hb]
    -- `(b :: bs)[i+1]?` computes to `bs[i]?`
    have ih' : List.map ((fun x => (b :: bs)[x]?) ∘ fun x => x + 1) _ = _ := ih hu
    rw [ih']
    cases (absBackend b 0).eligible now.toNat <;> rfl

theorem healthy_length {bs : List Code.Backend} {now : Int} (hn : 0 ≤ now) (hu : ∀ b ∈ bs, 0 ≤ b.UnhealthyUntil) :
    (LB.eligibleIdx (absPool bs) now.toNat).length = (healthyOf bs now).length := by
  simpa using congrArg List.length (healthy_is_eligibleIdx bs now hn hu)

theorem healthy_at {bs : List Code.Backend} {now : Int} (hn : 0 ≤ now) (hu : ∀ b ∈ bs, 0 ≤ b.UnhealthyUntil) (k : Nat) :
    ((LB.eligibleIdx (absPool bs) now.toNat)[k]?).bind (bs[·]?) = (healthyOf bs now)[k]? := by
  simpa only [List.getElem?_map, Option.bind_map, Function.comp_def, id, Option.bind_fun_some]
    using congrArg (·[k]?.bind id) (healthy_is_eligibleIdx bs now hn hu)

/-- **ip_hash, as written**: the strategy object stays and the backend returned is the one in the slot the model's
`ipHashPick` names for the request's `strategyKey` -/
theorem ipNext_refines (s : Code.IPHashStrategy) (xff xri remote : Bytes) (now : Int) (hn : 0 ≤ now)
    (hu : ∀ b ∈ s.backends, 0 ≤ b.UnhealthyUntil) :
    Code.ipNextBackend s xff xri remote now =
      (s, (LB.ipHashPick (absPool s.backends) now.toNat (Addr.strategyKey ⟨xff, xri, remote⟩)).bind (s.backends[·]?)) := by
  rw [ipNext_eq, LB.ipHashPick, LB.guard_getElem?, healthy_at hn hu, healthy_length hn hu]

/-- **ip_hash_consistent, as written**: with fewer than 2³¹ backends (the `int32` conversion of the count) and any fuel
above their number it returns, and what it returns is as in `ipNext_refines`, with the model's `ipHashCPick` -/
theorem ipcNext_refines (s : Code.IPHashConsistentStrategy) (xff xri remote : Bytes) (now : Int) (hn : 0 ≤ now)
    (hu : ∀ b ∈ s.backends, 0 ≤ b.UnhealthyUntil) (hsmall : s.backends.length < 2147483648)
    (fuel : Nat) (hf : s.backends.length < fuel) :
    Code.ipcNextBackend fuel s xff xri remote now =
      some (s, (LB.ipHashCPick (absPool s.backends) now.toNat (Addr.strategyKey ⟨xff, xri, remote⟩)).bind (s.backends[·]?)) := by
  rw [ipcNext_eq hsmall hf, LB.ipHashCPick, LB.guard_getElem?, healthy_at hn hu, healthy_length hn hu]

/-- **client affinity of the code** (C06): same model key, same backend — same pool, same instant -/
theorem ipNext_same_key (s : Code.IPHashStrategy) (x1 r1 a1 x2 r2 a2 : Bytes) (now : Int) (hn : 0 ≤ now)
    (hu : ∀ b ∈ s.backends, 0 ≤ b.UnhealthyUntil)
    (hk : Addr.strategyKey ⟨x1, r1, a1⟩ = Addr.strategyKey ⟨x2, r2, a2⟩) :
    Code.ipNextBackend s x1 r1 a1 now = Code.ipNextBackend s x2 r2 a2 now := by
  rw [ipNext_eq, ipNext_eq, hk]

theorem ipcNext_same_key (s : Code.IPHashConsistentStrategy) (x1 r1 a1 x2 r2 a2 : Bytes) (now : Int) (hn : 0 ≤ now)
    (hu : ∀ b ∈ s.backends, 0 ≤ b.UnhealthyUntil) (hsmall : s.backends.length < 2147483648)
    (fuel : Nat) (hf : s.backends.length < fuel)
    (hk : Addr.strategyKey ⟨x1, r1, a1⟩ = Addr.strategyKey ⟨x2, r2, a2⟩) :
    Code.ipcNextBackend fuel s x1 r1 a1 now = Code.ipcNextBackend fuel s x2 r2 a2 now := by
  rw [ipcNext_eq hsmall hf, ipcNext_eq hsmall hf, hk]

/-- `ip_hash` as written never returns a backend that is inside an unhealthy window, nor one outside the pool (C02) -/
theorem ipNext_eligible (s : Code.IPHashStrategy) (xff xri remote : Bytes) (now : Int) (hn : 0 ≤ now)
    (hu : ∀ b ∈ s.backends, 0 ≤ b.UnhealthyUntil) (b : Code.Backend)
    (h : (Code.ipNextBackend s xff xri remote now).2 = some b) : (Code.eligible b now).2 = true ∧ b ∈ s.backends := by
  rw [ipNext_eq] at h
  exact (List.mem_filter.mp (List.mem_of_getElem? h)).symm

def sampleBackends : List Code.Backend :=
  [{ (default : Code.Backend) with Weight := 1, IsHealthy := true },
   { (default : Code.Backend) with Weight := 2, IsHealthy := false, UnhealthyUntil := 50 },
   { (default : Code.Backend) with Weight := 3, IsHealthy := true }]

example : ∀ b ∈ sampleBackends, 0 ≤ b.UnhealthyUntil := by decide
/-- X-Forwarded-For " 203.0.113.9 , 10.0.0.1": the first element, trimmed, whatever X-Real-IP and the peer are -/
example : Code.GetClientIP [32, 50, 48, 51, 46, 48, 46, 49, 49, 51, 46, 57, 32, 44, 32, 49, 48, 46, 48, 46, 48, 46, 49] [57, 46, 57, 46, 57, 46, 57] [49, 48, 46, 48, 46, 48, 46, 49, 58, 49, 50, 51, 52] = [50, 48, 51, 46, 48, 46, 49, 49, 51, 46, 57] := by decide
/-- no headers, peer "[::1]:80": the host part -/
example : Code.GetClientIP [] [] [91, 58, 58, 49, 93, 58, 56, 48] = [58, 58, 49] := by decide
/-- a peer address without a port is used as it stands -/
example : Code.GetClientIP [] [] [49, 48, 46, 48, 46, 48, 46, 49] = [49, 48, 46, 48, 46, 48, 46, 49] := by decide
example : ((Code.ipNextBackend ⟨sampleBackends⟩ [] [] [49, 48, 46, 48, 46, 48, 46, 49, 58, 49, 50, 51, 52] 10).2.map (·.Weight)) = some 3 := by decide
example : ((Code.ipcNextBackend 4 ⟨sampleBackends⟩ [] [] [49, 48, 46, 48, 46, 48, 46, 49, 58, 49, 50, 51, 52] 10).map (·.2.map (·.Weight))) = some (some 3) := by decide

theorem translation_clean_addr :
    ["GetClientIP", "ipNextBackend", "ipcNextBackend"].all (fun f => Code.translated.contains f) = true ∧
    (Code.translationProblems.filter (fun p => ["GetClientIP", "NextBackend"].contains p.1)) = [] := by
  decide +kernel

end Helios.CodeTie
