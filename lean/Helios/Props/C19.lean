import Helios.Model.Shutdown
/-
C19 — Graceful shutdown cannot deadlock and stops probing (protocol level): for every number of backends, of
concurrent `Stop` callers and of ticks, and every interleaving.
-/
namespace Helios.Shut

def rank : Stopper → Nat
  | .start => 0 | .cancelled => 1 | .loopJoined => 2 | .probesJoined => 3 | .poolShut => 4 | .returned => 5

def live (p : Probe) : Bool := p != .done

def notDone (s : State) : Nat := s.probes.countP live

/-- the four middle clauses: what stage `k` of `Stop` establishes holds once a caller has `rank ≥ k` -/
structure Inv (s : State) : Prop where
  wgExact   : s.wg = notDone s
  cancelled : ∀ st ∈ s.stoppers, 1 ≤ rank st → s.cancelled = true
  loopGone  : ∀ st ∈ s.stoppers, 2 ≤ rank st → s.loop = .exited
  drained   : ∀ st ∈ s.stoppers, 3 ≤ rank st → s.wg = 0
  poolShut  : ∀ st ∈ s.stoppers, 4 ≤ rank st → s.poolOpen = false
  noLate    : s.lateSends = 0
  noMisuse  : s.addDuringWait = 0

theorem countP_set {l : List Probe} {i : Nat} {old : Probe} (new : Probe) (h : l[i]? = some old)
    (ho : live old = true) : (l.set i new).countP live + (if live new then 0 else 1) = l.countP live := by
  obtain ⟨hi, rfl⟩ := List.getElem?_eq_some_iff.mp h
  have : 0 < l.countP live := List.countP_pos_iff.mpr ⟨_, List.getElem_mem hi, ho⟩
  rw [List.countP_set hi, ho]
  cases live new <;> exact Nat.sub_add_cancel this

/-- such a clause when caller `j` moves one stage on, not to the clause's own -/
theorem stoppers_set {l : List Stopper} {j k : Nat} {old new : Stopper} {Q : Prop}
    (h : l[j]? = some old) (hr : rank new = rank old + 1) (hi : ∀ st ∈ l, k ≤ rank st → Q)
    (hne : k ≠ rank new := by decide) : ∀ st ∈ l.set j new, k ≤ rank st → Q := by
  intro st hst hk
  rcases List.mem_or_eq_of_mem_set hst with h1 | rfl
  · exact hi st h1 hk
  · exact hi old (List.mem_of_getElem? h) (Nat.le_of_lt_succ (hr ▸ Nat.lt_of_le_of_ne hk hne : k < rank old + 1))

theorem inv_init (n k : Nat) : Inv (init n k) := by
  have h0 {X : Prop} {m : Nat} (st) (hst : st ∈ (init n k).stoppers) (hr : m + 1 ≤ rank st) : X := by
    cases List.eq_of_mem_replicate hst; nomatch hr
  exact ⟨rfl, h0, h0, h0, h0, rfl, rfl⟩

theorem Inv.wg_zero {s : State} (hi : Inv s) : s.wg = 0 ↔ ∀ p ∈ s.probes, p = .done := by
  simp only [hi.wgExact, notDone, List.countP_eq_zero, live, bne_iff_ne, ne_eq, Decidable.not_not]

theorem safe_of_inv {s : State} (hi : Inv s) (hret : anyReturned s = true) :
    s.loop = .exited ∧ (∀ p ∈ s.probes, p = .done) ∧ s.poolOpen = false ∧ s.cancelled = true := by
  have hm : .returned ∈ s.stoppers := by simpa [anyReturned] using hret
  exact ⟨hi.loopGone _ hm (by decide), hi.wg_zero.1 (hi.drained _ hm (by decide)), hi.poolShut _ hm (by decide),
    hi.cancelled _ hm (by decide)⟩

theorem inv_probe_done {a : State} (hi : Inv a) {i : Nat} {old : Probe} (h : a.probes[i]? = some old)
    (ho : live old = true) : Inv { a with probes := a.probes.set i .done, wg := a.wg - 1 } :=
  { hi with
    wgExact := Nat.sub_eq_of_eq_add (hi.wgExact.trans (countP_set .done h ho).symm)
    drained := fun st hst hr => congrArg (· - 1) (hi.drained st hst hr) }

theorem inv_step (a b : State) (hs : Step a b) (hi : Inv a) : Inv b := by
  have ⟨i1, i2, i3, i4, i5, i6, i7⟩ := hi
  -- while the loop runs no `Stop` caller is past `<-healthLoopDone`: the later clauses hold emptily
  have running {X : Prop} (hl : a.loop ≠ .exited) (st) (hst : st ∈ a.stoppers) (hr : 2 ≤ rank st) : X :=
    absurd (i3 st hst hr) hl
  cases hs with
  | tick h | fanoutDone h | seeDone h => exact { hi with loopGone := running (h ▸ nofun) }
  | drained h hw => exact { hi with loopGone := fun _ _ _ => rfl }
  | launch n h =>
    have hl : a.loop ≠ .exited := h ▸ nofun
    have hw : anyWaitingWg a = false :=
      Bool.eq_false_iff.mpr fun hw => running hl _ (by simpa [anyWaitingWg] using hw) (by decide)
    refine ⟨?_, i2, running hl, fun st hst hr => running hl st hst (Nat.le_of_succ_le hr), i5, i6, ?_⟩
    · show a.wg + 1 = (a.probes ++ [Probe.spawned]).countP live
      rw [List.countP_append, i1]; rfl
    · show a.addDuringWait + (if anyWaitingWg a = true then 1 else 0) = 0
      rw [hw, i7]; rfl
  | probeCheck i h =>
    split
    · exact inv_probe_done hi h rfl
    · exact { hi with wgExact := i1.trans (countP_set .cleared h rfl).symm }
  | probeSend i h =>
    -- if some Stop had returned, every probe would be done — but this one is not
    have hr : anyReturned a = false := Bool.eq_false_iff.mpr fun hr =>
      nomatch (safe_of_inv hi hr).2.1 .cleared (List.mem_of_getElem? h)
    refine { hi with wgExact := i1.trans (countP_set .sent h rfl).symm, noLate := ?_ }
    show a.lateSends + (if anyReturned a = true then 1 else 0) = 0
    rw [hr, i6]; rfl
  | probeDone i h => exact inv_probe_done hi h rfl
  | stopCancel j h =>
    exact ⟨i1, fun _ _ _ => rfl, stoppers_set h rfl i3, stoppers_set h rfl i4,
      stoppers_set h rfl i5, i6, i7⟩
  | stopJoinLoop j h hl =>
    exact ⟨i1, stoppers_set h rfl i2, fun _ _ _ => hl, stoppers_set h rfl i4,
      stoppers_set h rfl i5, i6, i7⟩
  | stopJoinProbes j h hw =>
    exact ⟨i1, stoppers_set h rfl i2, stoppers_set h rfl i3, fun _ _ _ => hw,
      stoppers_set h rfl i5, i6, i7⟩
  | stopPool j h =>
    exact ⟨i1, stoppers_set h rfl i2, stoppers_set h rfl i3, stoppers_set h rfl i4,
      fun _ _ _ => rfl, i6, i7⟩
  | stopReturn j h =>
    exact ⟨i1, stoppers_set h rfl i2, stoppers_set h rfl i3, stoppers_set h rfl i4,
      stoppers_set h rfl i5, i6, i7⟩

theorem inv_reach (a b : State) (hr : Reach a b) (hi : Inv a) : Inv b := by
  induction hr with
  | refl => exact hi
  | step _ hs ih => exact inv_step _ _ hs ih

/-- **No probe after shutdown returns, no WaitGroup misuse.** In every reachable state: once some `Stop` has
returned, the loop has exited, every probe goroutine has finished and the pool is shut; no probe was ever sent
after a `Stop` returned; `wg.Add` never ran while a `Stop` caller was inside `wg.Wait`. -/
theorem stop_safe (n k : Nat) (s : State) (hr : Reach (init n k) s) :
    s.lateSends = 0 ∧ s.addDuringWait = 0 ∧
    (anyReturned s = true → s.loop = .exited ∧ (∀ p ∈ s.probes, p = .done) ∧ s.poolOpen = false ∧ s.cancelled = true) :=
  have hi := inv_reach _ _ hr (inv_init n k)
  ⟨hi.noLate, hi.noMisuse, safe_of_inv hi⟩

theorem progress_of_inv {s : State} (hi : Inv s) (hpending : ∃ st ∈ s.stoppers, st ≠ .returned) :
    ∃ s', Step s s' := by
  obtain ⟨st, hst, hne⟩ := hpending
  obtain ⟨j, hget⟩ := List.getElem?_of_mem hst
  by_cases hlive : ∃ p ∈ s.probes, p ≠ .done
  · obtain ⟨p, hp, hpd⟩ := hlive
    obtain ⟨i, hg⟩ := List.getElem?_of_mem hp
    cases p with
    | spawned => exact ⟨_, Step.probeCheck s i hg⟩
    | cleared => exact ⟨_, Step.probeSend s i hg⟩
    | sent => exact ⟨_, Step.probeDone s i hg⟩
    | done => exact absurd rfl hpd
  · have hwg : s.wg = 0 := hi.wg_zero.2 fun p hp => Decidable.byContradiction fun h => hlive ⟨p, hp, h⟩
    cases st with
    | start => exact ⟨_, Step.stopCancel s j hget⟩
    | cancelled =>
      have hc := hi.cancelled _ hst (by decide)
      cases hl : s.loop with
      | idle => exact ⟨_, Step.seeDone s hl hc⟩
      | fanout m =>
        cases m with
        | zero => exact ⟨_, Step.fanoutDone s hl⟩
        | succ m' => exact ⟨_, Step.launch s m' hl⟩
      | draining => exact ⟨_, Step.drained s hl hwg⟩
      | exited => exact ⟨_, Step.stopJoinLoop s j hget hl⟩
    | loopJoined => exact ⟨_, Step.stopJoinProbes s j hget hwg⟩
    | probesJoined => exact ⟨_, Step.stopPool s j hget⟩
    | poolShut => exact ⟨_, Step.stopReturn s j hget⟩
    | returned => exact absurd rfl hne

/-- **Shutdown cannot get stuck.** In every reachable state in which some `Stop` caller has not returned yet,
some goroutine can take a step (no deadlock). -/
theorem stop_no_deadlock (n k : Nat) (s : State) (hr : Reach (init n k) s)
    (hpending : ∃ st ∈ s.stoppers, st ≠ .returned) : ∃ s', Step s s' :=
  progress_of_inv (inv_reach _ _ hr (inv_init n k)) hpending

example : Inv (init 3 2) := inv_init 3 2
example : ∃ s, Step (init 1 2) s := ⟨_, Step.stopCancel _ 1 rfl⟩
example : ∃ s, Step (init 1 2) s := ⟨_, Step.tick _ rfl⟩

end Helios.Shut
