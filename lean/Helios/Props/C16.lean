import Helios.Model.Ids
import Helios.Lemmas.Hdr
import Helios.Lemmas.Base
/-
C16 — Request-ID / trace-ID propagation is consistent end to end (`Helios.Ids`); `id_on_every_path` is a fact about `Base`.
-/
namespace Helios.Ids

/-- **Consistency.** With the feature enabled the response carries the header and its value
equals what is forwarded to the backend. -/
theorem id_consistent (supplied : Option Bytes) (pfx draw : Bytes) :
    (handle true supplied pfx draw).1 = (handle true supplied pfx draw).2 ∧
    (handle true supplied pfx draw).2.isSome := by
  simp [handle]

/-- **A supplied identifier is propagated unchanged** — to the backend and back to the client. -/
theorem supplied_unchanged (v pfx draw : Bytes) (h : blank v = false) :
    handle true (some v) pfx draw = (some v, some v) := by
  simp [handle, h]

/-- a missing or blank identifier is replaced by a freshly generated one -/
theorem blank_generated (supplied : Option Bytes) (pfx draw : Bytes) (h : blank (supplied.getD []) = true) :
    handle true supplied pfx draw = (some (gen pfx draw), some (gen pfx draw)) := by
  simp [handle, h]

/-- **Disabled means untouched**: nothing is generated, the request header (if any) is
forwarded as it came and no response header is set. -/
theorem disabled_untouched (supplied : Option Bytes) (pfx draw : Bytes) :
    handle false supplied pfx draw = (supplied, none) := by
  simp [handle]

theorem hexNib_inj : ∀ a < 16, ∀ b < 16, hexNib a = hexNib b → a = b := by
  let unhex (x : UInt8) : Nat := if x < 58 then x.toNat - 48 else x.toNat - 87
  have inv : ∀ a < 16, unhex (hexNib a) = a := by decide
  exact fun a ha b hb h => (inv a ha).symm.trans ((congrArg unhex h).trans (inv b hb))

theorem hexBytes_inj : ∀ (x y : Bytes), hexBytes x = hexBytes y → x = y
  | [], [], _ => rfl
  | [], _ :: _, h => nomatch h
  | _ :: _, [], h => nomatch h
  | a :: as, b :: bs, h => by
    injection h with h1 h; injection h with h2 h3
    have lt (x : UInt8) : x.toNat / 16 < 16 := Nat.div_lt_of_lt_mul x.toNat_lt
    have e : a.toNat = b.toNat := by
      rw [← Nat.div_add_mod a.toNat 16, hexNib_inj _ (lt a) _ (lt b) h1,
        hexNib_inj _ (Nat.mod_lt _ (by decide)) _ (Nat.mod_lt _ (by decide)) h2, Nat.div_add_mod]
    rw [UInt8.toNat_inj.mp e, hexBytes_inj as bs h3]

/-- **Generated identifiers are as distinct as the random draws**: the identifier is an
injective function of the 12 random bytes, so distinct draws (the assumption on the CSPRNG)
give distinct identifiers. -/
theorem id_injective (pfx d1 d2 : Bytes) (h : gen pfx d1 = gen pfx d2) : d1 = d2 := by
  simp only [gen, List.append_assoc, List.append_cancel_left_eq] at h
  exact hexBytes_inj d1 d2 h

end Helios.Ids

namespace Helios.Http

theorem finish_snap_run (h : String) : ∀ (ops : List Op) (b : Base),
    (∀ o ∈ ops, (∀ v', o ≠ .setH h v') ∧ o ≠ .delH h) → (b.run ops).finish.snap.get h = b.finish.snap.get h
  | [], _, _ => rfl
  | o :: os, b, hno => by
    obtain ⟨ho, hno'⟩ := List.forall_mem_cons.mp hno
    rw [run_cons, finish_snap_run h os _ hno', finish_snap_step, finish_snap]
    cases hs : b.status with
    | some s => rfl
    | none =>
      cases o with
      | setH k x => exact (Proxy.get_set ..).trans (if_neg fun e : k = h => ho.1 x (e ▸ rfl))
      | delH k => exact (Proxy.get_del ..).trans (if_neg fun e : k = h => ho.2 (e ▸ rfl))
      | _ => rfl

/-- **Every response path.** The middleware sets the ID header on the response before the
chain runs; whatever the inner handlers do afterwards — proxy the backend's answer, or answer
429 / 503 / 413 / 401 themselves — the committed response carries it, as long as they do
not overwrite or delete that very header (none of Helios' own error paths does). Content-Type / Content-Length excepted:
net/http drops those on 304 / 204. -/
theorem id_on_every_path (h v : String) (ops : List Op) (b : Base) (hb : b.status = none)
    (hno : ∀ o ∈ ops, (∀ v', o ≠ .setH h v') ∧ o ≠ .delH h) :
    ((b.step (.setH h v)).run ops).view.hdr.get h = v ∨ h = "Content-Type" ∨ h = "Content-Length" := by
  refine Decidable.or_iff_not_imp_right.mpr fun hne => ?_
  obtain ⟨h1, h2⟩ := not_or.mp hne
  have hd (s : Hdr) {k : String} (hk : ¬ h = k) : (s.del k).get h = s.get h := (Proxy.get_del ..).trans (if_neg (Ne.symm hk))
  simp only [Base.view, apply_ite (Hdr.get · h), hd _ h1, hd _ h2, ite_self]
  rw [finish_snap_run h ops _ hno, finish_snap_step, hb]
  exact (Proxy.get_set ..).trans (if_pos rfl)

end Helios.Http
