import Helios.Lemmas.Abs
/-
Tie C for C11: `RemoveBackend` and `AddBackend` (append) of the round-robin, least-connections and the two hash
strategies. Records have no identity, so the pointer comparison `b == backend` of the Go code is a parameter `ptrEq`; the
corollaries assume of it what pointer equality gives: among the pool's entries it singles out one position, or none.
-/
namespace Helios.CodeTie
open Helios.Generated

/-- the model's `LB.removeAt`, on the code's records (`removeAtC_abs`) -/
def removeAtC (pool : List Code.Backend) (i : Nat) : List Code.Backend :=
  match pool.getLast? with
  | none => pool
  | some l => if i < pool.length then (pool.set i l).dropLast else pool

theorem removeAtC_abs (pool : List Code.Backend) (i : Nat) :
    absPool (removeAtC pool i) = LB.removeAt (absPool pool) i := by
  unfold removeAtC LB.removeAt absPool
  rw [List.getLast?_map]
  cases pool.getLast? with
  | none => rfl
  | some l => simp only [Option.map_some, List.length_map, apply_ite (List.map _), List.map_dropLast, List.map_set]

/-- Go's `s[i] = s[len(s)-1]; s = s[:len(s)-1]` at a valid index -/
theorem swap_truncate {pool : List Code.Backend} {i : Nat} (hi : i < pool.length) :
    List.take (Int.toNat ((Int.ofNat (List.set pool i (Code.listGet pool (Int.toNat ((Int.ofNat pool.length) - (1 : Int))))).length) - (1 : Int)))
      (List.set pool i (Code.listGet pool (Int.toNat ((Int.ofNat pool.length) - (1 : Int))))) = removeAtC pool i := by
  have hl : pool.getLast? = some (Code.listGet pool (pool.length - 1)) := by
    rw [listGet_lt _ _ (Nat.sub_one_lt_of_lt hi), List.getLast?_eq_getElem?, List.getElem?_eq_getElem]
  rw [take_dropLast]
  simp only [removeAtC, hl, hi, if_true, toNat_len_pred]

theorem set_last_take (pool : List Code.Backend) (i : Nat) (hi : i < pool.length) (l : Code.Backend)
    (hl : pool.getLast? = some l) :
    List.take (Int.toNat ((Int.ofNat (List.set pool i (Code.listGet pool (Int.toNat ((Int.ofNat pool.length) - (1 : Int))))).length) - (1 : Int)))
      (List.set pool i (Code.listGet pool (Int.toNat ((Int.ofNat pool.length) - (1 : Int)))))
    = (pool.set i l).dropLast := by
  simp only [swap_truncate hi, removeAtC, hl, if_pos hi]

theorem rr_scan (ptrEq : Code.Backend → Code.Backend → Bool) (rr : Code.RoundRobinStrategy) (target : Code.Backend)
    (pre rest : List Code.Backend) (hall : rr.backends = pre ++ rest) (j : Int) (hj : j = pre.length) :
    Code.rrRemoveBackend_range1 ptrEq rest j (rr, target) =
      match rest.findIdx? (ptrEq · target) with
      | none => .inr (rr, target)
      | some k => .inl ({ rr with backends := removeAtC rr.backends (pre.length + k) }, target) := by
  rw [range_first (fun b s => ptrEq b s.2) _ (Code.rrRemoveBackend_range1 ptrEq) (fun _ _ => rfl) (fun _ _ _ _ => rfl)]
  cases h : rest.findIdx? (ptrEq · target) with
  | none => rfl
  | some k =>
    have hk : pre.length + k < rr.backends.length := by
      rw [hall, List.length_append]; exact Nat.add_lt_add_left (List.findIdx?_eq_some_iff_getElem.mp h).1 _
    simp only [hj, ← Int.natCast_add, Int.toNat_natCast, swap_truncate hk]

/-- **`RoundRobinStrategy.RemoveBackend`, as written**: the first pool entry that is the given backend (by pointer) is
swapped with the last and the pool shortened by one; with no such entry nothing changes. The rotation counter stays. -/
theorem rrRemove_refines (ptrEq : Code.Backend → Code.Backend → Bool) (rr : Code.RoundRobinStrategy) (target : Code.Backend) :
    (Code.rrRemoveBackend ptrEq rr target).1 =
      match rr.backends.findIdx? (ptrEq · target) with
      | none => rr
      | some k => { rr with backends := removeAtC rr.backends k } := by
  unfold Code.rrRemoveBackend
  rw [rr_scan ptrEq rr target [] rr.backends rfl 0 rfl]
  cases rr.backends.findIdx? (ptrEq · target) <;> simp

/-- the other three strategies: the same Go text, the same statement -/
theorem lcRemove_refines (ptrEq : Code.Backend → Code.Backend → Bool) (rr : Code.LeastConnectionsStrategy) (target : Code.Backend) :
    (Code.lcRemoveBackend ptrEq rr target).1 =
      match rr.backends.findIdx? (ptrEq · target) with
      | none => rr
      | some k => { rr with backends := removeAtC rr.backends k } := by
  unfold Code.lcRemoveBackend
  rw [range_first (fun b s => ptrEq b s.2) _ (Code.lcRemoveBackend_range1 ptrEq) (fun _ _ => rfl) (fun _ _ _ _ => rfl)]
  cases h : rr.backends.findIdx? (ptrEq · target) with
  | none => rfl
  | some k => simp only [Int.zero_add, Int.toNat_natCast, swap_truncate (List.findIdx?_eq_some_iff_getElem.mp h).1]

theorem ipRemove_refines (ptrEq : Code.Backend → Code.Backend → Bool) (rr : Code.IPHashStrategy) (target : Code.Backend) :
    (Code.ipRemoveBackend ptrEq rr target).1 =
      match rr.backends.findIdx? (ptrEq · target) with
      | none => rr
      | some k => { rr with backends := removeAtC rr.backends k } := by
  unfold Code.ipRemoveBackend
  rw [range_first (fun b s => ptrEq b s.2) _ (Code.ipRemoveBackend_range1 ptrEq) (fun _ _ => rfl) (fun _ _ _ _ => rfl)]
  cases h : rr.backends.findIdx? (ptrEq · target) with
  | none => rfl
  | some k => simp only [Int.zero_add, Int.toNat_natCast, swap_truncate (List.findIdx?_eq_some_iff_getElem.mp h).1]

theorem ipcRemove_refines (ptrEq : Code.Backend → Code.Backend → Bool) (rr : Code.IPHashConsistentStrategy) (target : Code.Backend) :
    (Code.ipcRemoveBackend ptrEq rr target).1 =
      match rr.backends.findIdx? (ptrEq · target) with
      | none => rr
      | some k => { rr with backends := removeAtC rr.backends k } := by
  unfold Code.ipcRemoveBackend
  rw [range_first (fun b s => ptrEq b s.2) _ (Code.ipcRemoveBackend_range1 ptrEq) (fun _ _ => rfl) (fun _ _ _ _ => rfl)]
  cases h : rr.backends.findIdx? (ptrEq · target) with
  | none => rfl
  | some k => simp only [Int.zero_add, Int.toNat_natCast, swap_truncate (List.findIdx?_eq_some_iff_getElem.mp h).1]

theorem findIdx_of_ptrEq (ptrEq : Code.Backend → Code.Backend → Bool) (pool : List Code.Backend) (target : Code.Backend) (k : Nat)
    (hk : k < pool.length) (h : ∀ j (hj : j < pool.length), ptrEq pool[j] target = decide (j = k)) :
    pool.findIdx? (ptrEq · target) = some k := by
  rw [List.findIdx?_eq_some_iff_getElem]
  exact ⟨hk, by simp [h k hk], fun j hj => by simp [h j (Nat.lt_trans hj hk), Nat.ne_of_lt hj]⟩

theorem findIdx_none_of_ptrEq (ptrEq : Code.Backend → Code.Backend → Bool) (pool : List Code.Backend) (target : Code.Backend)
    (h : ∀ b ∈ pool, ptrEq b target = false) : pool.findIdx? (ptrEq · target) = none := by
  rw [List.findIdx?_eq_none_iff]
  intro b hb; simp [h b hb]

theorem rrRemove_abs (ptrEq : Code.Backend → Code.Backend → Bool) (rr : Code.RoundRobinStrategy) (target : Code.Backend) (k : Nat)
    (hk : k < rr.backends.length) (h : ∀ j (hj : j < rr.backends.length), ptrEq rr.backends[j] target = decide (j = k)) :
    absPool (Code.rrRemoveBackend ptrEq rr target).1.backends = LB.removeAt (absPool rr.backends) k ∧
    (Code.rrRemoveBackend ptrEq rr target).1.current = rr.current := by
  rw [rrRemove_refines, findIdx_of_ptrEq ptrEq rr.backends target k hk h]
  exact ⟨removeAtC_abs _ _, rfl⟩

theorem rrAdd_refines (rr : Code.RoundRobinStrategy) (b : Code.Backend) :
    (Code.rrAddBackend rr b).1 = { rr with backends := rr.backends ++ [b] } := rfl
theorem lcAdd_refines (s : Code.LeastConnectionsStrategy) (b : Code.Backend) :
    (Code.lcAddBackend s b).1 = { s with backends := s.backends ++ [b] } := rfl
theorem ipAdd_refines (s : Code.IPHashStrategy) (b : Code.Backend) :
    (Code.ipAddBackend s b).1 = { s with backends := s.backends ++ [b] } := rfl
theorem ipcAdd_refines (s : Code.IPHashConsistentStrategy) (b : Code.Backend) :
    (Code.ipcAddBackend s b).1 = { s with backends := s.backends ++ [b] } := rfl

/-- the new backend goes to the end; jump-hash buckets are positions: the premise of `append_minimal` (C06) -/
theorem rrAdd_abs (rr : Code.RoundRobinStrategy) (b : Code.Backend) :
    absPool (Code.rrAddBackend rr b).1.backends = absPool rr.backends ++ [absBackend b 0] ∧
    (Code.rrAddBackend rr b).1.current = rr.current := by
  simp [rrAdd_refines, absPool]
theorem ipcAdd_abs (s : Code.IPHashConsistentStrategy) (b : Code.Backend) :
    absPool (Code.ipcAddBackend s b).1.backends = absPool s.backends ++ [absBackend b 0] := by
  simp [ipcAdd_refines, absPool]

def samplePool3 : List Code.Backend :=
  [{ (default : Code.Backend) with Weight := 1 }, { (default : Code.Backend) with Weight := 2 },
   { (default : Code.Backend) with Weight := 3 }, { (default : Code.Backend) with Weight := 4 }]

/-- remove the second of four: the last takes its place -/
example : ((Code.rrRemoveBackend (fun a b => a.Weight == b.Weight) ⟨samplePool3, 7⟩ { (default : Code.Backend) with Weight := 2 }).1.backends.map (·.Weight))
    = [1, 4, 3] := by decide
example : ((Code.ipcRemoveBackend (fun a b => a.Weight == b.Weight) ⟨samplePool3⟩ { (default : Code.Backend) with Weight := 4 }).1.backends.map (·.Weight))
    = [1, 2, 3] := by decide
example : ((Code.lcRemoveBackend (fun a b => a.Weight == b.Weight) ⟨samplePool3⟩ { (default : Code.Backend) with Weight := 9 }).1.backends.map (·.Weight))
    = [1, 2, 3, 4] := by decide

theorem translation_clean_rm :
    ["rrRemoveBackend", "lcRemoveBackend", "ipRemoveBackend", "ipcRemoveBackend",
     "rrAddBackend", "lcAddBackend", "ipAddBackend", "ipcAddBackend"].all (fun f => Code.translated.contains f) = true ∧
    (Code.translationProblems.filter (fun p => ["RemoveBackend", "AddBackend"].contains p.1)) = [] := by
  decide +kernel

end Helios.CodeTie
