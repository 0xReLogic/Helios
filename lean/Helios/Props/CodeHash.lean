import Helios.Lemmas.Go
import Helios.Props.C06
/-
Tie C for `jumpHash` (C06), translated with the exact machine integers of the Go code: `uint64` multiplication that
wraps, `int64` products and quotients, the final `int32` conversion. For every key and every positive bucket count it
returns the value of the unbounded-integer model `Hash.jumpHash`, which the theorems of C06 are about.
-/
namespace Helios.CodeTie
open Helios.Generated

section
open Helios.Hash
/-- `int64` arithmetic is exact on `[0, 2⁶²]`, where `jump_no_overflow` keeps the loop -/
theorem bmod64 (x : Int) (h1 : 0 ≤ x) (h2 : x ≤ 4611686018427387904) : x.bmod (2^64) = x :=
  Int.bmod_eq_of_le (Int.le_trans (by decide) h1) (Int.lt_of_le_of_lt h2 (by decide))

theorem toInt64_small (d : UInt64) (h : d.toNat < 9223372036854775808) : d.toInt64.toInt = d.toNat :=
  BitVec.toInt_eq_toNat_of_lt (x := d.toBitVec) ((Nat.mul_lt_mul_left (by decide)).mpr h)

theorem step64 (k : UInt64) (j : Int64) (n : Int) (h0 : 0 ≤ j.toInt) (hj : j.toInt < n) (hn : n ≤ 2147483648) :
    ((j + (1 : Int64)) * ((2147483648 : Int64) / (UInt64.toInt64 ((k >>> (33 : UInt64)) + (1 : UInt64))))).toInt
      = (j.toInt + 1) * quo k := by
  obtain ⟨q0, q1, _, d1⟩ := LB.jump_no_overflow k j.toInt n h0 hj hn
  have hd : ((k >>> (33 : UInt64)) + (1 : UInt64)).toNat = (k >>> 33).toNat + 1 :=
    (UInt64.toNat_add ..).trans (Nat.mod_eq_of_lt (Nat.lt_of_le_of_lt d1 (by decide)))
  have hdi := toInt64_small ((k >>> (33 : UInt64)) + (1 : UInt64)) (hd ▸ Nat.lt_of_le_of_lt d1 (by decide))
  have h31 : (2147483648 : Int64).toInt = 2147483648 := by decide
  have h1 : (1 : Int64).toInt = 1 := by decide
  rw [Int64.toInt_mul, Int64.toInt_div_of_ne_left _ _ (by decide), h31, hdi, hd, Int.tdiv_eq_ediv_of_nonneg (by decide),
    Int64.toInt_add, h1,
    bmod64 _ (Int.add_nonneg h0 (by decide)) (Int.le_trans (Int.le_trans (Int.add_one_le_of_lt hj) hn) (by decide))]
  exact bmod64 _ q0 q1

theorem lt_toInt64 (j : Int64) (n : Int32) : j < Int32.toInt64 n ↔ j.toInt < n.toInt := by
  rw [Int64.lt_iff_toInt_lt, Int32.toInt_toInt64]

/-- `fg + 1` is the fuel of the translated loop, which spends a unit on the turn that exits, `fm` that of the model's
`Hash.loop`, which does not -/
theorem loop_exit (n : Int32) (fg fm : Nat) (key : UInt64) (b j : Int64) (h : ¬ j.toInt < n.toInt) :
    (Code.jumpHash_loop1 n (fg + 1) (key, b, j)).map (·.2.1.toInt) = some (Hash.loop fm key b.toInt j.toInt n.toInt) := by
  simp [Code.jumpHash_loop1, lt_toInt64, h, loop_of_not_lt]

/-- at most `n − j` turns are left -/
theorem loop_sim (n : Int32) : ∀ (fg fm : Nat) (key : UInt64) (b j : Int64),
    0 ≤ j.toInt → n.toInt - j.toInt ≤ fg → n.toInt - j.toInt ≤ fm →
    (Code.jumpHash_loop1 n (fg + 1) (key, b, j)).map (·.2.1.toInt) = some (Hash.loop fm key b.toInt j.toInt n.toInt) := by
  have hn31 : n.toInt ≤ 2147483648 := Int.le_of_lt n.toInt_lt
  have turn : ∀ (j J : Int) (f : Nat), j + 1 ≤ J → n.toInt - j ≤ ↑(f + 1) → n.toInt - J ≤ ↑f := fun _ _ _ _ _ => by omega
  intro fg
  induction fg with
  | zero => exact fun fm key b j _ h _ => loop_exit n 0 fm key b j (Int.not_lt.mpr (Int.le_of_sub_nonpos h))
  | succ fg ih =>
    intro fm key b j h0 hfg hfm
    by_cases hlt : j.toInt < n.toInt
    · obtain ⟨fm, rfl⟩ := fuel_succ (Int.natCast_pos.mp (Int.lt_of_lt_of_le (Int.sub_pos_of_lt hlt) hfm))
      have hs := step64 (nextKey key) j n.toInt h0 hlt hn31
      have hgrow := step_grows (nextKey key) j.toInt h0
      rw [← hs] at hgrow
      rw [Code.jumpHash_loop1, loop_succ, if_pos hlt, ← hs]
      simp only [(lt_toInt64 j n).mpr hlt, decide_true, if_true]
      exact ih fm (nextKey key) j _ (Int.le_trans (Int.le_add_one h0) hgrow) (turn _ _ fg hgrow hfg) (turn _ _ fm hgrow hfm)
    · exact loop_exit n _ fm key b j hlt

/-- any fuel above the bucket count suffices: the Go loop terminates -/
theorem jumpHash_refines (key : UInt64) (n : Int32) (hn : 0 < n.toInt) (fuel : Nat) (hf : n.toInt.toNat < fuel) :
    ∃ r, Code.jumpHash fuel key n = some r ∧ r.toInt = Hash.jumpHash key n.toInt.toNat := by
  have hm1 : (-1 : Int64).toInt = -1 := by decide
  have h00 : (0 : Int64).toInt = 0 := by decide
  have hcast : ((n.toInt.toNat : Nat) : Int) = n.toInt := Int.toNat_of_nonneg (Int.le_of_lt hn)
  obtain ⟨fuel, rfl⟩ := fuel_succ hf
  obtain ⟨⟨key', b', j'⟩, h1, h2⟩ := Option.map_eq_some_iff.mp (loop_sim n fuel (n.toInt.toNat + 1) key (-1) 0
    (Int.le_of_eq h00.symm) (by rw [h00, Int.sub_zero]; exact Int.toNat_le.mp (Nat.le_of_lt_succ hf))
    (by rw [h00, Int.sub_zero, Int.natCast_succ, hcast]; exact Int.le_add_one (Int.le_refl _)))
  have hr := jump_range key n.toInt.toNat (Int.lt_toNat.mpr hn)
  refine ⟨Int64.toInt32 b', ?_, ?_⟩
  · unfold Code.jumpHash
    simp only [h1]
  · have e : b'.toInt = Hash.jumpHash key n.toInt.toNat := by
      rw [h2, hm1, h00]; unfold Hash.jumpHash; rw [hcast]
    rw [Int64.toInt_toInt32, e]
    exact Int.bmod_eq_of_le (Int.le_trans (by decide) hr.1) (Int.lt_trans (hcast ▸ hr.2) n.toInt_lt)

end

theorem translation_clean_hash :
    ["jumpHash"].all (fun f => Code.translated.contains f) = true ∧
    (Code.translationProblems.filter (fun p => ["jumpHash"].contains p.1)) = [] := by
  decide +kernel

example : Code.jumpHash 10 12345 7 = some 1 ∧ Hash.jumpHash 12345 7 = 1 := by decide +kernel
end Helios.CodeTie
