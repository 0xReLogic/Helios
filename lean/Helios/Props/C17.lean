import Helios.Model.Registry
/-
C17 — Plugin chain: configured order, rejection stops the chain, startup fails closed.
-/
namespace Helios.Http

/-- no rejecting branch (gzip has none either; `chain_order_general` covers it) -/
def Plugin.passes : Plugin → Prop
  | .logging | .headers _ _ | .probe _ => True
  | _ => False

def enters : List Plugin → List Ev
  | [] => []
  | .probe id :: ps => .enter id :: enters ps
  | _ :: ps => enters ps

def exits : List Plugin → List Ev
  | [] => []
  | .probe id :: ps => exits ps ++ [.exit id]
  | _ :: ps => exits ps

/-- logging, probe: the request passes unchanged (also through gzip, left out) -/
def Plugin.observer : Plugin → Prop
  | .logging | .probe _ => True
  | _ => False

theorem enters_cons (p : Plugin) (ps : List Plugin) : enters (p :: ps) = enters [p] ++ enters ps := by cases p <;> rfl

theorem exits_cons (p : Plugin) (ps : List Plugin) : exits (p :: ps) = exits ps ++ exits [p] := by
  cases p with
  | probe _ => rfl
  | _ => exact (List.append_nil _).symm

theorem inner_not_mem (ps : List Plugin) : Ev.inner ∉ enters ps ∧ Ev.inner ∉ exits ps := by
  induction ps with
  | nil => exact ⟨List.not_mem_nil, List.not_mem_nil⟩
  | cons p ps ih =>
    cases p with
    | probe id => exact ⟨fun h => ih.1 ((List.mem_cons.mp h).resolve_left nofun),
        fun h => (List.mem_append.mp h).elim ih.2 fun h => nomatch List.mem_singleton.mp h⟩
    | _ => exact ih

theorem serve_cons_trace (gzLen : Body → Nat) (p : Plugin) (ps : List Plugin) (req : Request) (h : Hdr)
    (inner : Request → List Op) :
    (¬ p.passes ∧ (serve gzLen (p :: ps) req h inner).2 = []) ∨
    ∃ req' h',
      (serve gzLen (p :: ps) req h inner).2 = enters [p] ++ (serve gzLen ps req' h' inner).2 ++ exits [p] := by
  cases p with
  | logging => exact .inr ⟨req, h, (List.append_nil _).symm⟩
  | probe id => exact .inr ⟨req, h, rfl⟩
  | headers a b => exact .inr ⟨_, _, (List.append_nil _).symm⟩
  | auth k =>
    by_cases hk : req.hdr.get "X-Api-Key" ≠ k
    · exact .inl ⟨id, congrArg Prod.snd (if_pos hk)⟩
    · exact .inr ⟨req, h, (congrArg Prod.snd (if_neg hk)).trans (List.append_nil _).symm⟩
  | sizeLimit a b =>
    by_cases ht : tooLarge req a = true
    · exact .inl ⟨id, congrArg Prod.snd (if_pos ht)⟩
    · exact .inr ⟨_, h, (congrArg Prod.snd (if_neg ht)).trans (List.append_nil _).symm⟩
  | gzip a b =>
    -- with or without the gzip writer, the trace is that of the rest
    exact .inr ⟨req, h, (apply_ite Prod.snd ..).trans <| (ite_self _).trans (List.append_nil _).symm⟩

/-- **Configured order, first listed outermost.** For every chain whose plugins let the
request through, the request enters the plugins in the configured order, reaches the backend
once, and leaves them in reverse order. -/
theorem chain_order (gzLen : Body → Nat) (ps : List Plugin) (hp : ∀ p ∈ ps, p.passes) :
    ∀ (req : Request) (h : Hdr) (inner : Request → List Op),
      (serve gzLen ps req h inner).2 = enters ps ++ [.inner] ++ exits ps := by
  induction ps with
  | nil => exact fun _ _ _ => rfl
  | cons p ps ih =>
    intro req h inner
    obtain ⟨hpp, hp'⟩ := List.forall_mem_cons.mp hp
    rcases serve_cons_trace gzLen p ps req h inner with ⟨hn, _⟩ | ⟨req', h', e⟩
    · exact absurd hpp hn
    · rw [e, ih hp', enters_cons p ps, exits_cons p ps]
      simp only [List.append_assoc]

/-- the order also holds through the transforming plugins when they do not reject -/
theorem chain_order_general (gzLen : Body → Nat) (ps : List Plugin) :
    ∀ (req : Request) (h : Hdr) (inner : Request → List Op),
      Ev.inner ∈ (serve gzLen ps req h inner).2 →
      (serve gzLen ps req h inner).2 = enters ps ++ [.inner] ++ exits ps := by
  induction ps with
  | nil => exact fun _ _ _ _ => rfl
  | cons p ps ih =>
    intro req h inner hin
    rcases serve_cons_trace gzLen p ps req h inner with ⟨_, e⟩ | ⟨req', h', e⟩ <;> rw [e] at hin ⊢
    · cases hin
    · have : Ev.inner ∈ (serve gzLen ps req' h' inner).2 := by
        simpa [(inner_not_mem [p]).1, (inner_not_mem [p]).2] using hin
      rw [ih _ _ _ this, enters_cons p ps, exits_cons p ps]
      simp only [List.append_assoc]

/-- **A rejecting plugin stops the chain.** If custom-auth refuses the key (or size_limit the
declared length) behind observer plugins, the trace holds their entries and exits and nothing
else: no later plugin and not the backend see the request. -/
theorem reject_stops (gzLen : Body → Nat) (pre post : List Plugin) (hp : ∀ p ∈ pre, p.observer)
    (rej : Plugin) (req : Request) (h : Hdr) (inner : Request → List Op)
    (hrej : (∃ k, rej = .auth k ∧ req.hdr.get "X-Api-Key" ≠ k) ∨
            (∃ mr mp d, rej = .sizeLimit mr mp ∧ req.declared = some d ∧ d > mr)) :
    (serve gzLen (pre ++ rej :: post) req h inner).2 = enters pre ++ exits pre ∧
    Ev.inner ∉ (serve gzLen (pre ++ rej :: post) req h inner).2 := by
  have key : (serve gzLen (pre ++ rej :: post) req h inner).2 = enters pre ++ exits pre := by
    induction pre with
    | nil =>
      rcases hrej with ⟨k, rfl, hk⟩ | ⟨mr, mp, d, rfl, hd, hgt⟩
      · exact congrArg Prod.snd (if_pos hk)
      · exact congrArg Prod.snd (if_pos (by rw [tooLarge, hd]; exact decide_eq_true hgt))
    | cons p ps ih =>
      obtain ⟨hpp, hp'⟩ := List.forall_mem_cons.mp hp
      cases p with
      | logging => exact ih hp'
      | probe id =>
        show [.enter id] ++ (serve gzLen (ps ++ rej :: post) req h inner).2 ++ [.exit id] = _
        rw [ih hp']
        exact congrArg (_ :: ·) (List.append_assoc (enters ps) (exits ps) [.exit id])
      | _ => exact hpp.elim
  rw [key]
  exact ⟨rfl, fun hm => (List.mem_append.mp hm).elim (inner_not_mem pre).1 (inner_not_mem pre).2⟩

theorem mapM_eq_some {α β} (f : α → Option β) (l : List α) : ∀ ps, l.mapM f = some ps → l.map f = ps.map some := by
  induction l with
  | nil => exact fun ps e => Option.some.inj e ▸ rfl
  | cons a l ih =>
    intro ps e
    rw [List.mapM_cons] at e
    obtain ⟨b, hf, e⟩ := Option.bind_eq_some_iff.mp e
    obtain ⟨bs, hr, e⟩ := Option.bind_eq_some_iff.mp e
    exact Option.some.inj e ▸ congr (congrArg _ hf) (ih bs hr)

/-- **All or nothing.** A chain `BuildChain` yields has one plugin per entry, in order, each
built by its factory; if one listed plugin is unknown or its configuration invalid, *no* handler
is produced: Helios never starts with a configured plugin missing. -/
theorem startup_fail_closed (specs : List (String × Cfg)) :
    (∀ ps, buildChain specs = some ps →
        ps.length = specs.length ∧ ∀ i (hi : i < specs.length) (hj : i < ps.length),
          factory specs[i].1 specs[i].2 = some ps[i]) ∧
    ((∃ s ∈ specs, factory s.1 s.2 = none) → buildChain specs = none) := by
  constructor
  · intro ps hps
    have e := mapM_eq_some _ specs ps hps
    refine ⟨by rw [← List.length_map (f := some), ← e, List.length_map], fun i hi hj => ?_⟩
    have := List.getElem_of_eq e (i := i) (by rwa [List.length_map])
    rwa [List.getElem_map, List.getElem_map] at this
  · rintro ⟨s, hs, hf⟩
    cases hb : buildChain specs with
    | none => rfl
    | some ps =>
      have : factory s.1 s.2 ∈ ps.map some := mapM_eq_some _ specs ps hb ▸ List.mem_map_of_mem hs
      rw [hf] at this
      simp at this

theorem unknown_plugin_fails (name : String) (c : Cfg)
    (h : name ∉ ["size_limit", "gzip", "logging", "headers", "custom-auth"]) : factory name c = none := by
  simp only [List.mem_cons, List.mem_nil_iff, or_false, not_or] at h
  simp [factory, h]

example : (serve (fun _ => 0) [.probe 1, .logging, .probe 2] ⟨"GET", [], 0, some 0, none⟩ [] (fun _ => [])).2
    = [.enter 1, .enter 2, .inner, .exit 2, .exit 1] := by decide
example : (serve (fun _ => 0) [.probe 1, .auth "k", .probe 2] ⟨"GET", [], 0, some 0, none⟩ [] (fun _ => [])).2
    = [.enter 1, .exit 1] := by decide
example : buildChain [("logging", []), ("no-such-plugin", [])] = none := by decide
example : buildChain [("gzip", [("level", .int 5), ("min_size", .int 1024), ("content_types", .strs ["text/"])])]
    = some [.gzip 1024 ["text/"]] := by decide
example : buildChain [("gzip", [("level", .int 10), ("min_size", .int 1), ("content_types", .strs [])])] = none := by decide

end Helios.Http
