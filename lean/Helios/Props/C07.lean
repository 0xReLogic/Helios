import Helios.Model.Breaker
/-
C07 — Circuit breaker safety. A request is two steps (`CB.begin`, `CB.end_`): `halfopen_budget` is about every
overlap of concurrent requests, `trips` about whole calls one after another, the rest about one step.
-/
namespace Helios.CB

/-- whole `Execute` calls one after another, each begun and ended at one instant: (fn succeeds?, time) -/
def runSeq (c : Cfg) : State → List (Bool × Nat) → State
  | s, [] => s
  | s, (ok, t) :: es => runSeq c (exec c s ok t).1 es

def countFails : List (Bool × Nat) → Nat
  | [] => 0
  | (ok, _) :: es => (if ok then 0 else 1) + countFails es

/-- no request arrives later than `interval` after the failure before it -/
def NoGap (c : Cfg) : Option Nat → List (Bool × Nat) → Prop
  | _, [] => True
  | lf, (ok, t) :: es => (∀ l, lf = some l → t ≤ l + c.interval) ∧ NoGap c (if ok then lf else some t) es

theorem needsReset_eq_false (c : Cfg) (s : State) (t : Nat)
    (hg : ∀ l, s.lastFailure = some l → t ≤ l + c.interval) : needsReset c s t = false := by
  fun_cases needsReset c s t with
  | case1 l hl => exact decide_eq_false (Nat.not_lt.2 (hg l hl))
  | case2 => rfl

theorem exec_closed_nogap (c : Cfg) (s : State) (ok : Bool) (t : Nat)
    (hs : s.st = .closed) (hg : ∀ l, s.lastFailure = some l → t ≤ l + c.interval) :
    exec c s ok t =
      (if ok then s
       else if s.failureCount + 1 ≥ c.failureThreshold then
         { s with lastFailure := some t, failureCount := s.failureCount + 1, st := .open_,
                  generation := s.generation + 1, nextAttempt := t + c.timeout }
       else { s with lastFailure := some t, failureCount := s.failureCount + 1 },
       .admitted s.generation) := by
  have hr := needsReset_eq_false c s t hg
  cases s
  cases hs
  cases ok <;> simp [exec, begin, end_, hr]

/-- **Trip.** Starting closed, once `failure_threshold` failures have accumulated with no gap longer than
`interval` (successes interleaved anywhere), the breaker is open after the last of them, until `timeout` later. -/
theorem trips (c : Cfg) (pre : List (Bool × Nat)) : ∀ (s : State) (t : Nat),
    s.st = .closed → NoGap c s.lastFailure (pre ++ [(false, t)]) →
    s.failureCount + countFails pre + 1 = c.failureThreshold →
    (runSeq c s (pre ++ [(false, t)])).st = .open_ ∧
    (runSeq c s (pre ++ [(false, t)])).nextAttempt = t + c.timeout := by
  induction pre with
  | nil =>
    intro s t hs hg hc
    simp only [List.nil_append, runSeq, NoGap] at *
    rw [exec_closed_nogap c s false t hs hg.1]
    have : c.failureThreshold ≤ s.failureCount + 1 := Nat.le_of_eq hc.symm
    simp [this]
  | cons e es ih =>
    intro s t hs hg hc
    obtain ⟨ok, te⟩ := e
    simp only [List.cons_append, runSeq, NoGap, countFails] at *
    rw [exec_closed_nogap c s ok te hs hg.1]
    cases ok with
    | true =>
      simp only [if_true, Nat.zero_add] at hg hc ⊢
      exact ih s t hs hg.2 hc
    | false =>
      simp only [Bool.false_eq_true, if_false] at hg hc ⊢
      rw [← Nat.add_assoc] at hc
      rw [if_neg (Nat.not_le.2 (hc ▸ Nat.lt_succ_of_le (Nat.le_add_right ..)))]
      exact ih _ t hs hg.2 hc

/-- **Blocked while open.** Until `timeout` has elapsed every request is rejected without running the
protected function, and the breaker's state is untouched. -/
theorem blocks_while_open (c : Cfg) (s : State) (now : Nat)
    (h : s.st = .open_) (hn : now ≤ s.nextAttempt) :
    begin c s now = (s, .rejectedOpen) := by
  simp [begin, h, Nat.not_lt.2 hn]

/-- 1 for an admission stamped `g` into the half-open state (closed ones are stamped too) -/
def trialInd (g : Nat) (r : State × Admit) : Nat :=
  match r.2 with
  | .admitted g' => if g' = g then (if r.1.st = .halfOpen then 1 else 0) else 0
  | _ => 0

/-- half-open trial admissions stamped with generation `g` during a run -/
def trialsIn (c : Cfg) (g : Nat) : Sys → List Ev → Nat
  | _, [] => 0
  | y, .begin tid now :: es =>
    (if (lookupTid tid y.inflight).isSome then 0 else trialInd g (begin c y.s now))
      + trialsIn c g (step c y (.begin tid now)).1 es
  | y, e :: es => trialsIn c g (step c y e).1 es

/-- trials of generation `g` that can still be admitted from state `s` -/
def budget (c : Cfg) (g : Nat) (s : State) : Nat :=
  if g < s.generation then 0
  else if s.generation = g then (if s.st = .halfOpen then c.maxRequests - s.requestCount else 0)
  else c.maxRequests

theorem budget_le (c : Cfg) (g : Nat) (s : State) : budget c g s ≤ c.maxRequests := by
  fun_cases budget c g s with
  | case1 | case3 => exact Nat.zero_le _
  | case2 => exact Nat.sub_le ..
  | case4 => exact Nat.le_refl _

/-- a later generation has used up the budget of the earlier ones and has at most a full one -/
theorem budget_next (c : Cfg) (g : Nat) {s s' : State} (h : s.generation < s'.generation) :
    budget c g s' ≤ budget c g s := by
  by_cases h1 : g < s'.generation
  · rw [budget, if_pos h1]
    exact Nat.zero_le _
  · have hlt := Nat.lt_of_lt_of_le h (Nat.not_lt.1 h1)
    rw [budget.eq_def c g s, if_neg (Nat.lt_asymm hlt), if_neg (Nat.ne_of_lt hlt)]
    exact budget_le c g s'

/-- an admission into the half-open state is paid for out of the budget of its generation -/
theorem begin_budget (c : Cfg) (g : Nat) (s : State) (now : Nat) :
    trialInd g (begin c s now) + budget c g (begin c s now).1 ≤ budget c g s := by
  fun_cases begin c s now with
  | case1 => simp [trialInd, budget, *]
  | case2 => simpa [trialInd] using budget_next c g (Nat.lt_succ_self _)
  | case3 _ _ hm =>
    -- the first trial of generation `s.generation + 1`
    by_cases hg : s.generation + 1 = g
    · subst hg
      simp [trialInd, budget, Nat.not_succ_lt_self, *]
      exact Nat.le_of_eq (Nat.add_sub_cancel' (Nat.pos_of_ne_zero hm))
    · simpa [trialInd, hg] using budget_next c g (Nat.lt_succ_self _)
  | case4 | case5 => simp [trialInd]
  | case6 _ hr =>
    -- one more trial of the current generation
    by_cases hg : s.generation = g
    · subst hg
      simp [trialInd, budget, *]
      rw [Nat.add_comm, Nat.sub_add_eq, Nat.sub_add_cancel (Nat.sub_pos_of_lt (Nat.not_le.1 hr))]
      exact Nat.le_refl _
    · simp [trialInd, budget, *]

theorem end_budget (c : Cfg) (g : Nat) (s : State) (gq : Nat) (ok : Bool) (now : Nat) :
    budget c g (end_ c s gq ok now) ≤ budget c g s := by
  fun_cases end_ c s gq ok now with
  -- the generation moves on (closing, tripping, re-opening), or nothing `budget` reads changes
  | case2 | case5 | case7 => exact budget_next c g (Nat.lt_succ_self _)
  | case1 | case3 | case4 | case6 | case8 => exact Nat.le_refl _

theorem trialsIn_le_budget (c : Cfg) (g : Nat) : ∀ (evs : List Ev) (y : Sys), trialsIn c g y evs ≤ budget c g y.s
  | [], _ => Nat.zero_le _
  | .begin tid now :: es, y => by
    have ih := trialsIn_le_budget c g es (step c y (.begin tid now)).1
    -- `ih` in the goal: `step` unfolds and splits in both at once
    revert ih
    simp only [trialsIn, step]
    split
    · exact fun ih => Nat.zero_add _ ▸ ih
    · split <;> exact fun ih => Nat.le_trans (Nat.add_le_add_left ih _) (begin_budget c g y.s now)
  | .end_ tid ok now :: es, y => by
    have ih := trialsIn_le_budget c g es (step c y (.end_ tid ok now)).1
    revert ih
    simp only [trialsIn, step]
    split
    · exact fun ih => Nat.le_trans ih (end_budget ..)
    · exact id

/-- **Half-open budget.** In every history, requests overlapping in any way, at most `max_requests`
trials are admitted in one half-open episode (one generation `g`). -/
theorem halfopen_budget (c : Cfg) (g : Nat) (evs : List Ev) : ∀ (y : Sys),
    trialsIn c g y evs ≤ c.maxRequests :=
  fun y => Nat.le_trans (trialsIn_le_budget c g evs y) (budget_le c g y.s)

/-- **Closes only after `success_threshold` trial successes.** A completion closes a half-open breaker only
if it is a success of a request admitted in this episode, and at least the `success_threshold`-th such. -/
theorem closes_only_after_trial_successes (c : Cfg) (s : State) (g : Nat) (ok : Bool) (now : Nat)
    (hs : s.st = .halfOpen) (hc : (end_ c s g ok now).st = .closed) :
    g = s.generation ∧ ok = true ∧ c.successThreshold ≤ s.successCount + 1 := by
  -- only the closing branch of `end_` ends closed; the others contradict `hs` or `hc`
  revert hc
  fun_cases end_ c s g ok now <;> simp_all

/-- **Any trial failure re-opens** the breaker for a full `timeout`. -/
theorem reopens_on_trial_failure (c : Cfg) (s : State) (now : Nat) (hs : s.st = .halfOpen) :
    (end_ c s s.generation false now).st = .open_ ∧
    (end_ c s s.generation false now).nextAttempt = now + c.timeout := by
  simp [end_, hs]

/-- A completion of a request admitted before the last state change (a slow request from the closed state
finishing during half-open, say) changes nothing. -/
theorem stale_completion_ignored (c : Cfg) (s : State) (g : Nat) (ok : Bool) (now : Nat)
    (h : g ≠ s.generation) : end_ c s g ok now = s := by
  simp [end_, h]

private def cEx : Cfg := { maxRequests := 1, interval := 100, timeout := 50, failureThreshold := 2, successThreshold := 1 }

/-- two failures trip the breaker; it blocks until t = 53 and half-opens after -/
example : (runSeq cEx {} [(false, 1), (true, 2), (false, 3)]).st = .open_ := by decide
example : NoGap cEx none ([(false, 1), (true, 2)] ++ [(false, 3)]) := by simp [NoGap, cEx]
example : (begin cEx (runSeq cEx {} [(false, 1), (false, 3)]) 53).2 = .rejectedOpen := by decide
example : (begin cEx (runSeq cEx {} [(false, 1), (false, 3)]) 54).2 = .admitted 2 := by decide
/-- two concurrent callers after the timeout: exactly one trial -/
example : trialsIn cEx 2 { s := runSeq cEx {} [(false, 1), (false, 3)] } [.begin 1 54, .begin 2 54] = 1 := by decide

end Helios.CB
