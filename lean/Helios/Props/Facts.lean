import Helios.Generated.Facts
import Helios.Model.LB
import Helios.Model.Admin
import Helios.Model.Config
/-
Tie B — facts regenerated from the Go source on every run (Generated/Facts.lean, by /verif/go/extract) against
the hand-written model. An equation between tables or literals is `rfl`: literals compared as literals, where
`decide` (left to the other facts) runs `String.decEq` on their UTF-8 encodings.
-/
namespace Helios.Facts

theorem extraction_clean : extractionProblems = [] := rfl

/-- `findHealthyBackend` tries the strategy as often as the model does -/
theorem retry_budget_eq : retryBudget = (LB.retryBudget : Int) := rfl

/-- the limiter's cleanup looks one hour back: the cutoff the C09 differential gives the model -/
theorem rl_cutoff_eq : rlCutoffNs = 3600000000000 := rfl

theorem jump_mul_eq : jumpMul = Hash.jumpMul.toNat := by decide

/-- validator, `SetStrategy` and `createStrategy` know exactly the five modelled strategies -/
theorem strategies_eq :
    validatorStrategies = ["ip_hash", "ip_hash_consistent", "least_connections", "round_robin", "weighted_round_robin"] ∧
    setStrategyNames = validatorStrategies ∧ createStrategyNames = validatorStrategies ∧
    (∀ s ∈ validatorStrategies, s ∈ Cfg.strategies) ∧ (∀ s ∈ Cfg.strategies, s ∈ validatorStrategies) ∧
    (∀ s ∈ validatorStrategies, (LB.kindOfName s).isSome = true) :=
  ⟨rfl, rfl, rfl, by decide⟩

/-- the admin mux registers exactly the modelled routes, each behind `auth` except /v1/health -/
theorem routes_eq : adminRoutes = Admin.routes.map (fun r => (r.path, r.auth)) := rfl

/-- the admin IP filter neither reads request headers nor falls back to the bare mux -/
theorem ip_filter_closed : ipFilterUsesHeaders = false ∧ ipFilterFailOpen = false := ⟨rfl, rfl⟩

/-- every ResponseWriter wrapper passes Hijack and Flush on (or exposes Unwrap): an upgrade and a
streamed response survive every plugin chain -/
theorem wrappers_capable : ∀ w ∈ writerWrappers, w.hijack = true ∧ (w.flush = true ∨ w.unwrap = true) := by decide

/-- the wrappers are the five the writer models cover -/
theorem wrappers_known : writerWrappers.map (·.name) =
    ["loadbalancer.responseWriter", "logging.idHeaderWriter", "plugins.gzipResponseWriter",
     "plugins.limitedResponseWriter", "plugins.statusRecorder"] := rfl

/-- C01, what the proxy model assumes: ReverseProxy flushes after every write (FlushInterval -1); the
transport neither adds Accept-Encoding nor decodes (DisableCompression); the balancer's writer defines
only these four methods (body and header map are the embedded writer's) and passes the status on
unchanged; the handler chain, inside out -/
theorem proxy_passthrough :
    proxyFlushImmediate = true ∧ transportNoCompress = true ∧
    lbWriterMethods = ["Flush", "Hijack", "Unwrap", "WriteHeader"] ∧ lbWriterForwards = true ∧
    handlerOrder = ["lb", "BuildChain", "RequestContextMiddleware", "withHandlerTimeout"] := ⟨rfl, rfl, rfl, rfl, rfl⟩

/-- C03, every timeout is set on every construction path: each of these fields gets a value that cannot
be zero ("ok": a variable guarded by `if v == 0 { v = default }`, or a non-zero constant), and the
handler timeout wraps the whole chain -/
theorem timeouts_set :
    (timeoutFields.map (fun t => (t.1, t.2.1))) =
      [("AddBackend", "http.Transport.ExpectContinueTimeout"), ("AddBackend", "http.Transport.IdleConnTimeout"),
       ("AddBackend", "http.Transport.ResponseHeaderTimeout"), ("AddBackend", "http.Transport.TLSHandshakeTimeout"),
       ("AddBackend", "net.Dialer.Timeout"), ("createHTTPServer", "http.Server.IdleTimeout"),
       ("createHTTPServer", "http.Server.ReadTimeout"), ("createHTTPServer", "http.Server.WriteTimeout")] ∧
    timeoutFields.all (fun t => t.2.2 == "ok") = true ∧ handlerTimeoutApplied = true := ⟨rfl, by decide, rfl⟩

theorem log_enums_eq : (∀ s ∈ logLevels, s ∈ Cfg.logLevels) ∧ (∀ s ∈ Cfg.logLevels, s ∈ logLevels) ∧
    (∀ s ∈ logFormats, s ∈ Cfg.logFormats) ∧ (∀ s ∈ Cfg.logFormats, s ∈ logFormats) := by decide

theorem plugins_eq : plugins = ["custom-auth", "gzip", "headers", "logging", "request-id", "size_limit"] := rfl

/-- the code's shutdown protocol is the one `Helios.Shut` steps through: the order of `Stop`; `wg.Add`
only in the fan-out, which only the loop goroutine runs; a probe checks the context first and its request
is bound to it; the process drains the server before stopping the balancer, and stops it on every path -/
theorem shutdown_protocol :
    stopSequence = ["cancel", "joinLoop", "wgWait", "poolShutdown"] ∧
    wgAddFuncs = ["checkBackendsHealth"] ∧ fanoutCallers = ["startActiveHealthChecks"] ∧
    probeChecksCtxFirst = true ∧ probeBoundToCtx = true ∧
    gracefulSequence = ["serverShutdown", "lbStop"] ∧ gracefulStopAlways = true :=
  ⟨rfl, rfl, rfl, rfl, rfl, rfl, rfl⟩

/-- the stop signals are never un-registered: one arriving while the process drains is absorbed (C19) -/
theorem signals_stay_registered : signalsStayRegistered = true := rfl

/-- `CircuitBreaker.Execute` records a panic of the protected call as its failure and re-panics: the model's
`end_ … false` for such a request, and the proxy's abort by `http.ErrAbortHandler`, rest on it -/
theorem execute_panic_is_failure_and_propagates : executeRecoverArm = true := rfl

end Helios.Facts
