import Helios.Model.LockPolicy
import Helios.Generated.Locks
/-
C12 — concurrency safety of shared state.

Lockset and lock-order soundness over the dynamic model (Model/Locks.lean); then, in namespace `Helios.Facts`,
that every row re-derived from the source (Generated/Locks.lean) meets the policy and ranks of Model/LockPolicy.lean.
-/
namespace Helios.Locks

theorem State.set_same (s : State) (t : Tid) (th : Thread) : (s.set t th) t = th :=
  if_pos rfl

theorem State.set_other {s : State} {t u : Tid} {th : Thread} (h : u ≠ t) : (s.set t th) u = s u :=
  if_neg h

def Ev.apply : Ev → List (Lock × Mode) → List (Lock × Mode)
  | .acq l m, h => (l, m) :: h
  | .rel l m, h => h.erase (l, m)
  | _, h => h

/-- the four constructors at once: below, one argument per event (`Ev.apply`) -/
theorem step_iff {s s' : State} : Step s s' ↔ ∃ t ev rest, (s t).todo = ev :: rest ∧
    (∀ l m, ev = .acq l m → Enabled s l m) ∧ s' = s.set t ⟨ev.apply (s t).held, rest⟩ := by
  constructor
  · intro st
    cases st with
    | acq t l m rest h hen => exact ⟨t, _, rest, h, fun _ _ e => by cases e; exact hen, rfl⟩
    | rel t _ _ rest h | rd t _ rest h | wr t _ rest h => exact ⟨t, _, rest, h, nofun, rfl⟩
  · rintro ⟨t, ev, rest, h, hen, rfl⟩
    cases ev with
    | acq l m => exact .acq s t l m rest h (hen l m rfl)
    | rel l m => exact .rel s t l m rest h
    | rd x => exact .rd s t x rest h
    | wr x => exact .wr s t x rest h

theorem step_thread {P : List (Lock × Mode) → List Ev → Prop}
    (hP : ∀ h ev r, P h (ev :: r) → P (ev.apply h) r) {s s' : State}
    (h : ∀ t, P (s t).held (s t).todo) (st : Step s s') : ∀ t, P (s' t).held (s' t).todo := by
  obtain ⟨t, ev, rest, htodo, -, rfl⟩ := step_iff.mp st
  intro a
  by_cases hat : a = t
  · rw [hat, State.set_same]; exact hP _ _ _ (htodo ▸ h t)
  · rw [State.set_other hat]; exact h a

theorem Reach.invariant {I : State → Prop} (hI : ∀ {s s'}, I s → Step s s' → I s') {s0 s : State}
    (r : Reach s0 s) (h : I s0) : I s := by
  induction r with
  | refl => exact h
  | step _ st ih => exact hI ih st

/-- `sync.RWMutex`: two holders of one lock are the same goroutine or both readers -/
def Excl (s : State) : Prop :=
  ∀ t u l m m', (l, m) ∈ (s t).held → (l, m') ∈ (s u).held → t = u ∨ (m = .R ∧ m' = .R)

theorem mem_held_set {s : State} {t a : Tid} {ev : Ev} {rest : List Ev} {l : Lock} {m : Mode}
    (ha : (l, m) ∈ ((s.set t ⟨ev.apply (s t).held, rest⟩) a).held) : (l, m) ∈ (s a).held ∨ a = t ∧ ev = .acq l m := by
  by_cases hat : a = t
  · subst hat
    rw [State.set_same] at ha
    cases ev with
    | acq l' m' => exact (List.mem_cons.mp ha).symm.imp_right fun e => by cases e; exact ⟨rfl, rfl⟩
    | rel l' m' => exact .inl (List.mem_of_mem_erase ha)
    | rd | wr => exact .inl ha
  · rw [State.set_other hat] at ha; exact .inl ha

theorem excl_step {s s' : State} (h : Excl s) (st : Step s s') : Excl s' := by
  obtain ⟨t, ev, rest, -, hen, rfl⟩ := step_iff.mp st
  intro a b l m m' ha hb
  rcases mem_held_set ha with oa | ⟨rfl, e⟩ <;> rcases mem_held_set hb with ob | ⟨rfl, e'⟩
  · exact h a b l m m' oa ob
  · exact .inr (hen l m' e' a m oa).symm
  · exact .inr (hen l m e b m' ob)
  · exact .inl rfl

def AllWell (g : Loc → Lock) (s : State) : Prop := ∀ t, WellLocked g (s t).held (s t).todo

theorem wellLocked_cons {g : Loc → Lock} (h ev r) (w : WellLocked g h (ev :: r)) : WellLocked g (ev.apply h) r := by
  cases ev with
  | acq => exact w
  | _ => exact w.2

theorem inv_reach {g : Loc → Lock} {s0 s : State} (r : Reach s0 s) (he : Excl s0) (hw : AllWell g s0) :
    Excl s ∧ AllWell g s :=
  ⟨Reach.invariant excl_step r he, Reach.invariant (step_thread wellLocked_cons) r hw⟩

/-- the writer holds the guard in write mode, the other goroutine in some mode: `Excl` allows neither -/
theorem no_race_of_inv {g : Loc → Lock} {s : State} (hex : Excl s) (hwell : AllWell g s) : ¬ Race s := by
  rintro ⟨t, u, x, rt, ru, hne, ht, hu⟩
  have hW : (g x, Mode.W) ∈ (s t).held := (ht ▸ hwell t : WellLocked g _ (.wr x :: rt)).1
  obtain ⟨m', hm'⟩ : ∃ m', (g x, m') ∈ (s u).held := by
    rcases hu with hu | hu
    · exact ⟨Mode.W, (hu ▸ hwell u : WellLocked g _ (.wr x :: ru)).1⟩
    · exact (hu ▸ hwell u : WellLocked g _ (.rd x :: ru)).1
  rcases hex t u (g x) Mode.W m' hW hm' with e | e
  · exact hne e
  · cases e.1

/-- **Lockset soundness.** Goroutines that start holding nothing and access every location under its guard
(write mode for writes) never reach a data race — any number of goroutines, programs, interleaving. -/
theorem lockset_sound (g : Loc → Lock) (s0 s : State)
    (h0 : ∀ t, (s0 t).held = []) (hw : ∀ t, WellLocked g [] (s0 t).todo)
    (r : Reach s0 s) : ¬ Race s := by
  have he : Excl s0 := by
    intro t u l m m' ht _; rw [h0 t] at ht; cases ht
  have hi := inv_reach (g := g) r he (fun t => h0 t ▸ hw t)
  exact no_race_of_inv hi.1 hi.2

def AllRanked (rank : Lock → Nat) (s : State) : Prop := ∀ t, Ranked rank (s t).held (s t).todo

theorem ranked_cons {rank : Lock → Nat} (h ev r) (w : Ranked rank h (ev :: r)) : Ranked rank (ev.apply h) r := by
  cases ev with
  | acq => exact w.2
  | _ => exact w

/-- where nobody can move no lock is held: its holder would wait for a held lock of higher rank -/
theorem not_held_of_stuck {rank : Lock → Nat} {B : Nat} (hB : ∀ l, rank l ≤ B) {s : State}
    (hr : AllRanked rank s) (hstuck : ∀ s', ¬ Step s s') {u : Tid} {l : Lock} {m : Mode}
    (hmem : (l, m) ∈ (s u).held) : False := by
  have hru := hr u
  cases htodo : (s u).todo with
  | nil => rw [htodo] at hru; rw [(hru : (s u).held = [])] at hmem; cases hmem
  | cons ev rest =>
    rw [htodo] at hru
    refine hstuck _ (step_iff.mpr ⟨u, ev, rest, htodo, fun l' _ e _ _ hmem' => ?_, rfl⟩)
    subst e
    have hlt : rank l < rank l' := hru.1 _ hmem
    exact (not_held_of_stuck hB hr hstuck hmem').elim
termination_by B - rank l
decreasing_by exact Nat.sub_lt_sub_left (Nat.lt_of_lt_of_le hlt (hB l')) hlt

theorem not_stuck_of_ranked {rank : Lock → Nat} {B : Nat} (hB : ∀ l, rank l ≤ B) {s : State}
    (hr : AllRanked rank s) : ¬ Stuck s := by
  rintro ⟨⟨t, hne⟩, hstuck⟩
  cases h : (s t).todo with
  | nil => exact hne h
  | cons ev rest =>
    exact hstuck _ (step_iff.mpr ⟨t, ev, rest, h, fun _ _ _ _ _ hmem => (not_held_of_stuck hB hr hstuck hmem).elim, rfl⟩)

/-- **Lock-order soundness.** Goroutines that start holding nothing, acquire locks only in strictly increasing
rank and release what they take never reach a state in which work is left and nobody can move. `B` bounds the
ranks: the chain of holders waiting for a higher lock ends (`not_held_of_stuck`). -/
theorem lockorder_sound (rank : Lock → Nat) (B : Nat) (hB : ∀ l, rank l ≤ B) (s0 s : State)
    (h0 : ∀ t, (s0 t).held = []) (hr : ∀ t, Ranked rank [] (s0 t).todo)
    (r : Reach s0 s) : ¬ Stuck s :=
  not_stuck_of_ranked hB (Reach.invariant (step_thread ranked_cons) r (fun t => h0 t ▸ hr t))

/-! non-vacuity: programs meeting the hypotheses, and variants that do not -/

private def prog : List Ev := [.acq 0 .W, .wr 7, .rel 0 .W]
example : WellLocked (fun _ => 0) [] prog := by simp [prog, WellLocked]
example : Ranked (fun l => l) [] [.acq 0 .R, .acq 1 .W, .rel 1 .W, .rel 0 .R] := by
  simp [Ranked]
example : ¬ WellLocked (fun _ => 0) [] [.acq 0 .R, .wr 7, .rel 0 .R] := by simp [WellLocked]
example : ¬ Ranked (fun l => l) [] [.acq 1 .W, .acq 0 .W, .rel 0 .W, .rel 1 .W] := by simp [Ranked]

end Helios.Locks

-- here, not in Props/Facts.lean, because `bin/check C12` builds this module only
namespace Helios.Facts
open Helios.Locks Helios.Generated.Locks

theorem lock_analysis_clean : problems = [] := rfl

private def okRow (pol : String → String → Policy) : Access → Bool
  | ⟨s, f, k, fresh, fn, _, held⟩ => Access.ok (fun _ _ => pol s f) ⟨s, f, k, fresh, fn, 0, held⟩

/-- **Every shared access is protected.** Each access the source makes to a struct field or package variable is
what its policy allows: the object unshared or confined to one goroutine; atomic; a read of an immutable or
init-only field, or a write by its `init`-time writers; from an exempt function; under the guard (write mode to write). -/
theorem accesses_guarded : accessChunks.all (fun c => c.all (Access.ok (policy initFuncs))) = true := by
  -- The kernel caches by term: with the row taken apart the policy is applied to two literals, a closed term
  -- that repeats across rows and is evaluated once per (struct, field) instead of once per row.
  show accessChunks.all (fun c => c.all (okRow (policy initFuncs))) = true
  decide +kernel

/-- the functions the policy lets write package-level registries are called only by `init` functions and
never escape as values: those writes happen before `main` -/
theorem init_writers_called_from_init :
    globalWriterCallers.all (fun r => !initWriters.contains r.1 ||
      (!r.2.2 && r.2.1.all (fun c => initFuncs.contains c))) = true := by
  simp [globalWriterCallers, initWriters, initFuncs]

theorem lock_classes_ranked : lockClasses.all (fun c => (rankOf c).isSome) = true := by
  simp [lockClasses, rankOf]

/-- **Locks are taken in rank order.** Every (held, acquired) pair the source can produce, through direct,
interface and cross-package calls, goes to a strictly higher rank: what `lockorder_sound` assumes. -/
theorem lock_order_ranked : orderEdges.all edgeOk = true := by decide +kernel

/-- no call through a function value (callback, hook) is made while a lock may be held -/
theorem no_callback_under_lock : dynamicCallsUnderLock = [] := rfl

/-- nothing waits for another goroutine (channel operation outside `select`, `WaitGroup` / `Cond` wait, sleep)
while a lock may be held, by the function or any caller: the one waited for never needs that lock -/
theorem no_wait_under_lock : blockingUnderLock = [] := rfl

/-- no method returns a guarded slice or map field as it is (or re-sliced): what a caller walks after the lock is
gone is a copy -/
theorem no_shared_guarded_returns : sharedGuardedReturns = [] := rfl

/-- the only function that releases a lock taken by its caller is the breaker's notifier -/
theorem caller_releases_known :
    callerLockReleases.all (fun c =>
      ["internal/circuitbreaker.CircuitBreaker.unlockAndNotify:CircuitBreaker.mutex"].contains c) = true := by
  simp [callerLockReleases]

/-- function literals taken to run synchronously are arguments of these callees only -/
theorem sync_literals_known :
    syncLiteralCallees.all (fun c => ["lb.circuitBreaker.Execute", "rl.buckets.Range"].contains c) = true := by
  simp [syncLiteralCallees]

end Helios.Facts
