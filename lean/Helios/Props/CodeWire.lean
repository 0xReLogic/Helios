import Helios.Lemmas.Abs
import Helios.Props.C18
import Helios.Props.CodeCfg
import Helios.Model.Wiring
/-
Tie C for the glue between configuration and components (C08, C09, C04, C20, C18): the four set-up functions of
`NewLoadBalancer` construct each component with exactly the numbers of `Wire.*Eff`: the configured values, seconds as
nanoseconds, documented defaults for values left at zero. For an accepted configuration these are the configured
numbers, except that an accepted zero still gets its default and an omitted `max_requests` becomes `success_threshold`
(`Wire.hcEff` defaults nothing: there is no `hcEff_accepted`).
The translation records a constructor call `x.f = NewT(a, b, …)` as an entry of `built`.

No proof below uses Props/CodeCfg; it is imported because the `*_accepted` theorems speak of what validation accepts in the
model's terms (`Cfg.validate c = none`), and that is what the code accepts only while `Validate_refines` stands: a validator
that stops refining the model must break the checks that rely on these theorems too.
-/
namespace Helios.CodeTie
open Helios.Generated

theorem setupRateLimiter_refines (lb : Code.LoadBalancer) (g : Code.Config) :
    (Code.setupRateLimiter lb g).2 = g ∧
    (if g.RateLimit.Enabled then
       (Code.setupRateLimiter lb g).1 = { lb with built := lb.built ++ [("NewTokenBucketRateLimiter", Wire.rlEff (absCfg g))], rateLimiter := true }
     else (Code.setupRateLimiter lb g).1 = lb) := by
  unfold Code.setupRateLimiter Wire.rlEff Wire.sec
  cases g.RateLimit.Enabled <;> simp

theorem setupWebSocketPool_refines (lb : Code.LoadBalancer) (g : Code.Config) :
    (Code.setupWebSocketPool lb g).2 = g ∧
    (if g.LoadBalancer.WebSocketPool.Enabled then
       (Code.setupWebSocketPool lb g).1 = { lb with built := lb.built ++ [("NewWebSocketPool", Wire.wsEff (absCfg g))], wsPool := true }
     else (Code.setupWebSocketPool lb g).1 = lb) := by
  unfold Code.setupWebSocketPool Wire.wsEff Wire.sec
  cases g.LoadBalancer.WebSocketPool.Enabled <;> simp

theorem setupCircuitBreaker_refines (lb : Code.LoadBalancer) (g : Code.Config) :
    (Code.setupCircuitBreaker lb g).2 = g ∧
    (if g.CircuitBreaker.Enabled then
       (Code.setupCircuitBreaker lb g).1 = { lb with built := lb.built ++ [("NewCircuitBreaker", Wire.cbEff (absCfg g))], circuitBreaker := true }
     else (Code.setupCircuitBreaker lb g).1 = lb) := by
  unfold Code.setupCircuitBreaker Wire.cbEff Wire.sec
  cases g.CircuitBreaker.Enabled with
  | false => exact ⟨rfl, rfl⟩
  | true =>
    -- each defaulting step rebuilds the whole tuple; read component by component, the steps that
    -- leave a component alone vanish (`ite_self`)
    simp only [apply_ite Prod.fst, apply_ite Prod.snd, beq_iff_eq, true_and, ite_self]
    rfl

theorem createHealthChecker_refines (g : Code.Config) :
    (Code.createHealthChecker g).1 = g ∧
    ∃ hc, (Code.createHealthChecker g).2 = some hc ∧
      (hc.activeEnabled, hc.activeInterval, hc.activeTimeout, hc.activePath, hc.passiveEnabled, hc.passiveThreshold, hc.passiveTimeout)
        = Wire.hcEff (absCfg g) ∧ hc.unhealthyBackends = fun _ => 0 :=
  ⟨rfl, _, rfl, rfl, rfl⟩

/-- the trial budget is never below the successes needed to close (C08) -/
theorem cbEff_accepted (c : Cfg.Config) (h : Cfg.validate c = none) (hon : c.cbOn = true) :
    Wire.cbEff c = [if c.cbMax = 0 then c.cbSuccess else c.cbMax, c.cbInterval * Wire.sec, c.cbTimeout * Wire.sec, c.cbFailure, c.cbSuccess] ∧
    c.cbSuccess ≤ (if c.cbMax = 0 then c.cbSuccess else c.cbMax) := by
  obtain ⟨d1, d2, d3, d4, d5, d6⟩ := ((Cfg.validate_iff_documented c).mp h).cb hon
  have e3 : ¬ c.cbInterval * Wire.sec = 0 := Int.ne_of_gt (Int.mul_pos d4 (by decide))
  have e4 : ¬ c.cbTimeout * Wire.sec = 0 := Int.ne_of_gt (Int.mul_pos d3 (by decide))
  simp only [Wire.cbEff, Int.toNat_eq_zero, if_neg (Int.not_le.2 d1), if_neg (Int.not_le.2 d2), nonpos_iff d5, if_neg e3,
    if_neg e4, apply_ite Nat.cast, Int.toNat_of_nonneg d5, Int.toNat_of_nonneg (Int.le_of_lt d1),
    Int.toNat_of_nonneg (Int.le_of_lt d2), true_and]
  split
  · exact Int.le_refl _
  · exact (Cfg.accepted_breaker_live c h hon).2.resolve_left ‹_›

theorem rlEff_accepted (c : Cfg.Config) (h : Cfg.validate c = none) (hon : c.rlOn = true) :
    Wire.rlEff c = [c.rlMax, c.rlRefill * Wire.sec] := by
  obtain ⟨d1, d2⟩ := ((Cfg.validate_iff_documented c).mp h).rl hon
  rw [Wire.rlEff, if_neg (Int.not_le.2 d1), if_neg (Int.not_le.2 (Int.mul_pos d2 (by decide)))]

theorem wsEff_accepted (c : Cfg.Config) (h : Cfg.validate c = none) (hon : c.wsOn = true) :
    Wire.wsEff c = [if c.wsMaxIdle = 0 then 10 else c.wsMaxIdle, if c.wsMaxActive = 0 then 100 else c.wsMaxActive,
                    (if c.wsIdleTimeout = 0 then 300 else c.wsIdleTimeout) * Wire.sec] := by
  obtain ⟨d1, d2, _, d4⟩ := ((Cfg.validate_iff_documented c).mp h).lb.2 hon
  have e : c.wsIdleTimeout * Wire.sec ≤ 0 ↔ c.wsIdleTimeout = 0 := by
    rw [nonpos_iff (Int.mul_nonneg d4 (by decide)), Int.mul_eq_zero, or_iff_left (by decide)]
  simp only [Wire.wsEff, nonpos_iff d1, nonpos_iff d2, e, apply_ite (· * Wire.sec)]

theorem translation_clean_wire :
    (["createHealthChecker", "setupWebSocketPool", "setupRateLimiter", "setupCircuitBreaker"].all Code.translated.contains) = true ∧
    (Code.translationProblems.filter (fun p => ["createHealthChecker", "setupWebSocketPool", "setupRateLimiter", "setupCircuitBreaker"].contains p.1)).isEmpty = true := by
  decide +kernel

end Helios.CodeTie
