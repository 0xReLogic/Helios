import Helios.Lemmas.Abs
/-
Tie C for `Backend.eligible` (C02) and the five health functions of `LoadBalancer` (C04): each does to the backend object
what the model's operation does to the pool slot, through `absBackend`. What that is: `LB.ejectObj` and, defined here, each
tied to the model's operation by the theorem after it, `checkObj`, `probeEndObj`, `passiveObj`. Trusted: unbounded
integers, one `time.Now()` per call, no locks. A call on the metrics collector is an entry of `fx`.
-/
namespace Helios.CodeTie
open Helios.Generated

theorem eligible_refines (b : Code.Backend) (now : Int) (cw : Int) (hu : 0 ≤ b.UnhealthyUntil) (hn : 0 ≤ now) :
    (Code.eligible b now).2 = (absBackend b cw).eligible now.toNat ∧ (Code.eligible b now).1 = b :=
  ⟨(eligible_abs b cw now hu).symm, rfl⟩

/-- the model's `isHealthyAt` on one backend: the flag afterwards and the verdict -/
def checkObj (b : LB.Backend) (now : Nat) : LB.Backend × Bool :=
  if b.healthy then (b, true)
  else if LB.expired b now then ({ b with healthy := true }, true) else (b, false)

theorem isHealthyAt_checkObj (y : LB.Sys) (i now : Nat) (o : LB.Obj) (ho : y.pool[i]? = some o) :
    (LB.isHealthyAt y i now).2 = (checkObj o.b now).2 ∧
    (LB.isHealthyAt y i now).1.pool[i]? = some { o with b := (checkObj o.b now).1 } := by
  unfold LB.isHealthyAt checkObj
  simp only [ho]
  cases o.b.healthy
  · cases LB.expired o.b now
    · exact ⟨rfl, ho⟩
    · exact ⟨rfl, List.getElem?_set_self (List.getElem?_eq_some_iff.mp ho).1⟩
  · exact ⟨rfl, ho⟩

/-- the translation repeats what follows `if lb.metricsCollector != nil {…}` in both branches; here once -/
theorem MarkBackendUnhealthy_eq (lb : Code.LoadBalancer) (b : Code.Backend) (dur now : Int) :
    Code.MarkBackendUnhealthy lb b dur now =
      ({ lb with fx := lb.fx ++ (if lb.metricsCollector then [(b.Name, false)] else []) },
       { b with IsHealthy := false, UnhealthyUntil := now + dur }) := by
  by_cases h : lb.metricsCollector = true
  · simp only [Code.MarkBackendUnhealthy, if_pos h]
  · simp only [Code.MarkBackendUnhealthy, if_neg h, List.append_nil]

theorem markUnhealthy_refines (lb : Code.LoadBalancer) (b : Code.Backend) (dur now cw : Int) (id : Nat)
    (hn : 0 < now) (hd : 0 ≤ dur) :
    absBackend (Code.MarkBackendUnhealthy lb b dur now).2 cw =
      (LB.ejectObj ⟨id, absBackend b cw⟩ now.toNat dur.toNat).b ∧
    (Code.MarkBackendUnhealthy lb b dur now).1.fx =
      lb.fx ++ (if lb.metricsCollector then [(b.Name, false)] else []) ∧
    (Code.MarkBackendUnhealthy lb b dur now).1.healthChecks = lb.healthChecks ∧
    (Code.MarkBackendUnhealthy lb b dur now).1.metricsCollector = lb.metricsCollector := by
  rw [MarkBackendUnhealthy_eq]
  exact ⟨absBackend_eject b cw now id dur hn hd, rfl, rfl, rfl⟩

/-- a probe that failed in transport ejects for the passive timeout, as a probe answered with a bad status does -/
theorem handleFailure_is_eject (lb : Code.LoadBalancer) (b : Code.Backend) (err : Option (String × List String)) (now : Int) :
    Code.handleHealthCheckFailure lb b err now = Code.MarkBackendUnhealthy lb b lb.healthChecks.passiveTimeout now :=
  rfl

theorem isBackendHealthy_refines (lb : Code.LoadBalancer) (b : Code.Backend) (now cw : Int)
    (hn : 0 < now) (hu : 0 ≤ b.UnhealthyUntil) :
    (Code.IsBackendHealthy lb b now).2.2 = (checkObj (absBackend b cw) now.toNat).2 ∧
    absBackend (Code.IsBackendHealthy lb b now).2.1 cw = (checkObj (absBackend b cw) now.toNat).1 ∧
    (Code.IsBackendHealthy lb b now).1.fx =
      lb.fx ++ (if lb.metricsCollector && !b.IsHealthy && (checkObj (absBackend b cw) now.toNat).2
                then [(b.Name, true)] else []) := by
  unfold Code.IsBackendHealthy checkObj
  rw [expired_abs b cw now hu hn, show (absBackend b cw).healthy = b.IsHealthy from rfl]
  cases b.IsHealthy
  · by_cases h : now > b.UnhealthyUntil
    · cases lb.metricsCollector <;> simp [h, absBackend_heal]
    · simp [h]
  · simp

/-- the model's `probeEnd` on one backend: a bad answer ejects for `ejectFor`; a good one marks healthy unless the backend
was ejected meanwhile and that window still runs -/
def probeEndObj (o : LB.Obj) (now ejectFor : Nat) (ok : Bool) : LB.Obj :=
  if !ok then LB.ejectObj o now ejectFor
  else if LB.stillEjected o.b now then o else { o with b := { o.b with healthy := true } }

theorem probeEnd_probeEndObj (y : LB.Sys) (name : String) (now i : Nat) (ok : Bool) (o : LB.Obj)
    (hi : y.pool.findIdx? (·.b.name = name) = some i) (ho : y.pool[i]? = some o) :
    (LB.probeEnd y name now ok).1.pool[i]? = some (probeEndObj o now y.hc.ejectFor ok) := by
  have hlt : i < y.pool.length := (List.getElem?_eq_some_iff.mp ho).1
  simp only [LB.probeEnd, probeEndObj, LB.eject, hi, ho]
  cases ok
  · exact List.getElem?_set_self hlt
  · cases LB.stillEjected o.b now
    · exact List.getElem?_set_self hlt
    · exact ho

theorem processResponse_refines (lb : Code.LoadBalancer) (b : Code.Backend) (status now cw : Int) (id : Nat)
    (hn : 0 < now) (hu : 0 ≤ b.UnhealthyUntil) (hp : 0 ≤ lb.healthChecks.passiveTimeout) :
    absBackend (Code.processHealthCheckResponse lb b status now).2 cw =
      (probeEndObj ⟨id, absBackend b cw⟩ now.toNat lb.healthChecks.passiveTimeout.toNat (status == 200)).b := by
  unfold Code.processHealthCheckResponse probeEndObj
  rw [stillEjected_abs b cw now hu hn, MarkBackendUnhealthy_eq]
  by_cases hs : status = 200
  · -- whether the metrics hear of it does not touch the backend
    cases b.IsHealthy
    · by_cases hx : now > b.UnhealthyUntil <;> simp [hs, hx, apply_ite Prod.snd, absBackend_heal]
    · simp [hs, apply_ite Prod.snd, absBackend_heal]
  · simpa [hs] using absBackend_eject b cw now id _ hn hp

/-- the model's `passiveFail` on one name: the new counters and whether the threshold was reached; `thr` is an `Int`
because the model's `hc.threshold` is -/
def passiveObj (cnt : String → Nat) (thr : Int) (name : String) : (String → Nat) × Bool :=
  let n := cnt name + 1
  if (n : Int) ≥ thr then (fun k => if k = name then 0 else cnt k, true)
  else (fun k => if k = name then n else cnt k, false)

theorem passiveFail_passiveObj (y : LB.Sys) (id : Nat) (name : String) (now : Nat) :
    (LB.passiveFail y id name now).failCnt = (passiveObj y.failCnt y.hc.threshold name).1 ∧
    (LB.passiveFail y id name now).pool =
      (if (passiveObj y.failCnt y.hc.threshold name).2
       then LB.updObj y.pool id (fun o => LB.ejectObj o now y.hc.ejectFor) else y.pool) := by
  unfold LB.passiveFail passiveObj
  by_cases h : y.hc.threshold ≤ (y.failCnt name : Int) + 1 <;> simp [h]

/-- **`handlePassiveHealthCheck` is the model's passive accounting**: the per-name counter goes up by one; when it reaches
the threshold the backend is ejected for the configured timeout and the counter is cleared. -/
theorem passive_refines (lb : Code.LoadBalancer) (b : Code.Backend) (status now cw : Int) (id : Nat)
    (hn : 0 < now) (hp : 0 ≤ lb.healthChecks.passiveTimeout)
    (hc : ∀ k, 0 ≤ lb.healthChecks.unhealthyBackends k) :
    (∀ k, ((Code.handlePassiveHealthCheck lb b status now).1.healthChecks.unhealthyBackends k).toNat =
        (passiveObj (fun k => (lb.healthChecks.unhealthyBackends k).toNat) lb.healthChecks.passiveThreshold b.Name).1 k) ∧
    absBackend (Code.handlePassiveHealthCheck lb b status now).2 cw =
      (if (passiveObj (fun k => (lb.healthChecks.unhealthyBackends k).toNat) lb.healthChecks.passiveThreshold b.Name).2
       then (LB.ejectObj ⟨id, absBackend b cw⟩ now.toNat lb.healthChecks.passiveTimeout.toNat).b
       else absBackend b cw) := by
  have hcast : (((lb.healthChecks.unhealthyBackends b.Name).toNat + 1 : Nat) : Int)
      = lb.healthChecks.unhealthyBackends b.Name + 1 := by rw [Int.natCast_add, Int.toNat_of_nonneg (hc b.Name)]; rfl
  unfold Code.handlePassiveHealthCheck passiveObj
  rcases le_cases lb.healthChecks.passiveThreshold (lb.healthChecks.unhealthyBackends b.Name + 1) with ⟨c, c'⟩ | ⟨c, c'⟩ <;>
    simp only [*, MarkBackendUnhealthy_eq, mapSet_apply, reduceIte, ge_iff_le, decide_eq_true_eq]
  · refine ⟨fun k => ?_, absBackend_eject b cw now id _ hn hp⟩
    by_cases hk : k = b.Name <;> simp only [mapSet_apply, hk, reduceIte] <;> rfl
  · refine ⟨fun k => ?_, rfl⟩
    by_cases hk : k = b.Name <;> simp only [mapSet_apply, hk, reduceIte]
    exact Int.toNat_add (hc _) (by decide)

theorem translation_clean_lb :
    ["eligible", "MarkBackendUnhealthy", "IsBackendHealthy", "handleHealthCheckFailure", "processHealthCheckResponse", "handlePassiveHealthCheck"].all (fun f => Code.translated.contains f) = true ∧
    (Code.translationProblems.filter (fun p => ["eligible", "MarkBackendUnhealthy", "IsBackendHealthy", "handleHealthCheckFailure", "processHealthCheckResponse", "handlePassiveHealthCheck"].contains p.1)) = [] := by
  decide +kernel

end Helios.CodeTie
