import Helios.Lemmas.Go
import Helios.Model.RateLimiter
/-
Tie C, rate limiter (C09): `refillTokens` and `Allow` of internal/ratelimiter/ratelimiter.go compute what `RL.refill`
and `RL.spend` compute, through `absB`.
Trusted: unbounded integers, one `time.Now()` per call, the locked part of `Allow` as one atomic step.
-/
namespace Helios.CodeTie
open Helios.Generated

/-- `cutoff` is read only by the model's `cleanup`, which is not translated: it is free in every theorem here -/
def rlCfg (rl : Code.TokenBucketRateLimiter) (cutoff : Nat) : RL.Cfg :=
  { max := rl.maxTokens.toNat, refill := rl.refillRate.toNat, cutoff := cutoff }

def absB (b : Code.Bucket) : RL.Bucket := { tokens := b.tokens.toNat, last := b.lastRefill.toNat }

/-- what the constructor and the translated functions keep -/
def WFB (rl : Code.TokenBucketRateLimiter) (b : Code.Bucket) : Prop :=
  0 < rl.refillRate ∧ 0 ≤ rl.maxTokens ∧ 0 ≤ b.tokens ∧ 0 ≤ b.lastRefill

/-- `refillTokens` with the clamp written as `min` -/
theorem refillTokens_eq (rl : Code.TokenBucketRateLimiter) (b : Code.Bucket) (now : Int) :
    Code.refillTokens rl b now =
      (rl, if 0 < Int.tdiv (now - b.lastRefill) rl.refillRate then
             { tokens := min (b.tokens + Int.tdiv (now - b.lastRefill) rl.refillRate) rl.maxTokens, lastRefill := now }
           else b) := by
  unfold Code.refillTokens
  rcases le_cases (Int.tdiv (now - b.lastRefill) rl.refillRate) 0 with ⟨h, h'⟩ | ⟨h, h'⟩
  · simp [*]
  · rcases le_cases (b.tokens + Int.tdiv (now - b.lastRefill) rl.refillRate) rl.maxTokens with ⟨c, c'⟩ | ⟨c, c'⟩
    · simp [*, Int.min_eq_left c]
    · simp [*, Int.min_eq_right (Int.le_of_lt c)]

theorem refillTokens_refines (rl : Code.TokenBucketRateLimiter) (b : Code.Bucket) (now : Int) (cutoff : Nat)
    (hw : WFB rl b) (hn : 0 ≤ now) :
    absB (Code.refillTokens rl b now).2 = RL.refill (rlCfg rl cutoff) (absB b) now.toNat ∧
    (Code.refillTokens rl b now).1 = rl ∧ WFB rl (Code.refillTokens rl b now).2 := by
  obtain ⟨hr, hm, ht, hl⟩ := hw
  have hb := tdiv_toNat (now - b.lastRefill) rl.refillRate hr
  rw [Int.toNat_sub'' hn hl] at hb
  rw [refillTokens_eq]
  unfold RL.refill
  -- with the quotient named on both sides, the model's test reads `0 < q`
  simp only [absB, rlCfg, ← hb, ← Int.pos_iff_toNat_pos]
  generalize Int.tdiv (now - b.lastRefill) rl.refillRate = q
  by_cases hq : 0 < q
  · have hq' := Int.le_of_lt hq
    rw [if_pos hq, if_pos hq, toNat_min, Int.toNat_add ht hq']
    exact ⟨rfl, trivial, hr, hm, Int.le_min.2 ⟨Int.add_nonneg ht hq', hm⟩, hn⟩
  · rw [if_neg hq, if_neg hq]
    exact ⟨rfl, trivial, hr, hm, ht, hl⟩

theorem allow_refines (rl : Code.TokenBucketRateLimiter) (b : Code.Bucket) (now : Int) (cutoff : Nat)
    (hw : WFB rl b) (hn : 0 ≤ now) :
    absB (Code.Allow rl b now).2.1 = (RL.spend (rlCfg rl cutoff) (absB b) now.toNat).1 ∧
    (Code.Allow rl b now).2.2 = (RL.spend (rlCfg rl cutoff) (absB b) now.toNat).2 ∧
    (Code.Allow rl b now).1 = rl ∧ WFB rl (Code.Allow rl b now).2.1 := by
  obtain ⟨h1, h2, h3⟩ := refillTokens_refines rl b now cutoff hw hn
  unfold Code.Allow RL.spend
  rw [← h1]
  generalize Code.refillTokens rl b now = r at *
  obtain ⟨rl', b'⟩ := r
  subst h2
  obtain ⟨hr, hm, ht, hl⟩ := h3
  simp only [absB, ← Int.pos_iff_toNat_pos]
  rcases le_cases b'.tokens 0 with ⟨c, c'⟩ | ⟨c, c'⟩ <;>
    simp only [c, c', decide_true, decide_false, if_true, if_false, Bool.false_eq_true]
  · exact ⟨trivial, trivial, trivial, hr, hm, ht, hl⟩
  · exact ⟨congrArg (RL.Bucket.mk · _) (Int.toNat_sub' b'.tokens 1), trivial, trivial, hr, hm, Int.sub_nonneg_of_le c, hl⟩

theorem translation_clean_rl :
    ["refillTokens", "Allow"].all (fun f => Code.translated.contains f) = true ∧
    (Code.translationProblems.filter (fun p => ["refillTokens", "Allow"].contains p.1)) = [] := by
  decide +kernel

example : WFB { maxTokens := 3, refillRate := 1000000000, cleanupTick := 600000000000 } { tokens := 3, lastRefill := 5 } := by
  simp [WFB]
end Helios.CodeTie
