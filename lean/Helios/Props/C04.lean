import Helios.Props.C02
/-
C04 — Health state machine: ejection threshold, unhealthy window, recovery.
-/
namespace Helios.LB

/-- **Passive ejection happens exactly at the threshold** (with `passive_at_threshold`). A failed
(5xx / unreachable) response of backend `name` adds one to its failure counter; below
`unhealthy_threshold` nothing else changes. -/
theorem passive_below_threshold (y : Sys) (id : Nat) (name : String) (now : Nat)
    (h : (y.failCnt name : Int) + 1 < y.hc.threshold) :
    (passiveFail y id name now).pool = y.pool ∧ (passiveFail y id name now).dead = y.dead ∧
    (passiveFail y id name now).failCnt name = y.failCnt name + 1 ∧
    (passiveFail y id name now).bm = y.bm := by
  simp [passiveFail, Int.not_le.mpr h]

/-- On reaching `unhealthy_threshold` the backend object is ejected for `unhealthy_timeout`, the
metrics mirror says so, and the counter restarts from zero. -/
theorem passive_at_threshold (y : Sys) (id : Nat) (name : String) (now : Nat)
    (h : y.hc.threshold ≤ (y.failCnt name : Int) + 1) :
    (passiveFail y id name now).failCnt name = 0 ∧
    (∀ o ∈ (passiveFail y id name now).pool, o.id = id →
        ∀ t, t ≤ now + y.hc.ejectFor → o.b.inWindow t = true) ∧
    ((passiveFail y id name now).bm name).map (·.healthy) = some false := by
  rw [passiveFail, if_pos (show ((y.failCnt name + 1 : Nat) : Int) ≥ y.hc.threshold from h)]
  refine ⟨if_pos rfl, ?_, by simp [bmUpd_self]⟩
  intro o ho hid t ht
  obtain ⟨o0, _, rfl⟩ := List.mem_map.mp (ho : o ∈ updObj y.pool id _)
  by_cases h0 : o0.id = id
  · rw [if_pos h0]; exact inWindow_ejectObj o0 ht
  · rw [if_neg h0] at hid; exact absurd hid h0

/-- any completed exchange other than a 5xx under passive checks (2xx–4xx, aborted, checks off)
leaves every backend's health state and the failure counters alone -/
theorem finish_no_eject (y : Sys) (fl : Flight) (o : Obj) (now : Nat) (out : Outcome)
    (h : ¬ (∃ c, out = .status c ∧ c ≥ 500 ∧ y.hc.passive = true)) :
    (finish y fl o now out).pool.map (fun o => (o.id, o.b.healthy, o.b.until_)) =
      y.pool.map (fun o => (o.id, o.b.healthy, o.b.until_)) ∧
    (finish y fl o now out).failCnt = y.failCnt := by
  have hp : passiveCheck (release y fl.bid o.b.name o.b.conns out.ok) fl.bid o.b.name now out =
      release y fl.bid o.b.name o.b.conns out.ok := by
    cases out with
    | abort => rfl
    | status c => exact if_neg fun hc => h ⟨c, rfl, hc⟩
  obtain ⟨cb, ec⟩ := cbEnd_frame (release y fl.bid o.b.name o.b.conns out.ok) fl.gen out.ok now
  rw [finish_eq, hp, ec]
  exact ⟨map_updObj_of_eq _ fun _ => rfl, rfl⟩

/-- a failed probe of a backend that was being probed (not ejected) ejects it for the window -/
theorem probe_fail_ejects (y : Sys) (name : String) (now : Nat) (i : Nat) (o : Obj)
    (hi : y.pool.findIdx? (·.b.name = name) = some i) (ho : y.pool[i]? = some o)
    (hh : o.b.healthy = true) :
    ∃ o', (probe y name now false).1.pool[i]? = some o' ∧ o'.b.name = o.b.name ∧
      ∀ t, t ≤ now + y.hc.ejectFor → o'.b.inWindow t = true := by
  have hiH : isHealthyAt y i now = (y, true) := by rw [isHealthyAt_eq y i now o ho, if_pos hh]
  simp only [probe, hi, hiH, Bool.not_true, Bool.false_eq_true, if_false, eject, ho]
  exact ⟨_, List.getElem?_set_self (List.getElem?_eq_some_iff.mp ho).1, rfl, fun _ => inWindow_ejectObj o⟩

/-- a successful probe never ejects: no backend's flag goes from healthy to unhealthy -/
theorem probe_ok_never_ejects (y : Sys) (name : String) (now : Nat) :
    ∀ (j : Nat) (o' : Obj), (probe y name now true).1.pool[j]? = some o' → o'.b.healthy = false →
      ∃ o, y.pool[j]? = some o ∧ o.b.healthy = false ∧ o.b.until_ = o'.b.until_ := by
  -- a good answer only raises flags: a slot whose flag is down was not written
  have := probe_ind (P := fun y' => ∀ (j : Nat) (o' : Obj), y'.pool[j]? = some o' → o'.b.healthy = false →
    y.pool[j]? = some o') true ?_ nofun y name now fun _ _ h _ => h
  · exact fun j o' hj hf => ⟨o', this j o' hj hf, hf, rfl⟩
  intro y' i o ih ho j o' hj hf
  by_cases hji : i = j
  · subst hji
    cases (List.getElem?_set_self (List.getElem?_eq_some_iff.mp ho).1).symm.trans hj
    cases hf
  · exact ih j o' ((List.getElem?_set_ne hji).symm.trans hj) hf

/-- inside its window a backend receives no client traffic (restating `dispatch_sound`) -/
theorem no_traffic_in_window (y : Sys) (tid now : Nat) (r : Addr.Req) (name : String)
    (h : (begin y tid now r).2 = .fwd name) :
    ∃ o ∈ y.pool, o.b.name = name ∧ o.b.inWindow now = false :=
  dispatch_sound y tid now r name h

/-- once the window has elapsed the backend is eligible again without any active probe, and a
request is then never answered "no healthy backend" -/
theorem recovers_after_window (y : Sys) (o : Obj) (ho : o ∈ y.pool) (u now : Nat)
    (hu : o.b.until_ = some u) (hnow : u < now) (hg : Guard y.strat) (tid : Nat) (r : Addr.Req) :
    o.b.eligible now = true ∧ (begin y tid now r).2 ≠ .noBackend := by
  have he : o.b.eligible now = true := by simp [Backend.eligible, hu, hnow]
  refine ⟨he, no_503_while_healthy y tid now r hg o ho ?_⟩
  rw [eligible_eq_not_inWindow] at he
  simpa using he

/-- **Lazy expiry.** `IsBackendHealthy` on an ejected backend whose window has elapsed answers true,
flips the flag back and publishes "healthy" to the metrics mirror: the dispatch path needs no probe. -/
theorem lazy_expiry (y : Sys) (i now : Nat) (o : Obj) (ho : y.pool[i]? = some o)
    (hh : o.b.healthy = false) (hx : expired o.b now = true) :
    (isHealthyAt y i now).2 = true ∧
    ((isHealthyAt y i now).1.pool[i]?).map (·.b.healthy) = some true ∧
    (((isHealthyAt y i now).1.bm o.b.name).map (·.healthy)) = some true := by
  rw [isHealthyAt_eq y i now o ho, if_neg (Bool.eq_false_iff.mp hh), if_pos hx]
  refine ⟨rfl, ?_, by simp [heal, bmUpd_self]⟩
  rw [show (heal y i o).pool = y.pool.set i _ from rfl, List.getElem?_set_self (List.getElem?_eq_some_iff.mp ho).1]; rfl

/-- **A fresh ejection is not lost to a concurrent expiry check.** `IsBackendHealthy` and
`MarkBackendUnhealthy` of the same backend are two critical sections; in whichever order they run
the backend ends ejected with its new window running: a check that runs second sees the new deadline. -/
theorem eject_survives_expiry_check (y : Sys) (i now d : Nat) (o : Obj) (ho : y.pool[i]? = some o) :
    (∀ o', (isHealthyAt y i now).1.pool[i]? = some o' →
        (ejectObj o' now d).b.healthy = false ∧ (ejectObj o' now d).b.inWindow now = true) ∧
    (isHealthyAt { y with pool := y.pool.set i (ejectObj o now d) } i now).2 = false ∧
    (isHealthyAt { y with pool := y.pool.set i (ejectObj o now d) } i now).1.pool[i]? = some (ejectObj o now d) := by
  have hs : ({ y with pool := y.pool.set i (ejectObj o now d) } : Sys).pool[i]? = some (ejectObj o now d) :=
    List.getElem?_set_self (List.getElem?_eq_some_iff.mp ho).1
  have hY := isHealthyAt_eq _ i now _ hs
  rw [if_neg (by simp [ejectObj]), if_neg (by simp [ejectObj, expired])] at hY
  exact ⟨fun o' _ => ⟨rfl, inWindow_ejectObj o' (Nat.le_add_right ..)⟩, by rw [hY], by rw [hY]; exact hs⟩

/-- **A late probe answer never cuts a window short.** Whatever happened while the probe was in
flight (`y` is arbitrary): when its 200 arrives, every backend inside an unhealthy window with a set
end stays inside it. -/
theorem probeEnd_ok_keeps_window (y : Sys) (name : String) (now : Nat) (j : Nat) (o : Obj)
    (ho : y.pool[j]? = some o) (hu : o.b.until_ ≠ none) (hw : o.b.inWindow now = true) :
    ∃ o', (probeEnd y name now true).1.pool[j]? = some o' ∧ o'.b.inWindow now = true := by
  refine ⟨o, ?_, hw⟩
  fun_cases probeEnd y name now true with
  | case2 => contradiction
  | case1 | case3 | case4 => exact ho
  | case5 i _ _ oi hoi hg =>
    -- slot `j` is in its window: not the slot that passed the guard
    refine (List.getElem?_set_ne ?_).trans ho
    rintro rfl
    cases hoi.symm.trans ho
    exact hg (stillEjected_of_inWindow hu hw)

end Helios.LB
