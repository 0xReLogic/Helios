import Helios.Lemmas.Strategy
import Helios.Lemmas.Periodic
/-
C05 — Distribution contracts of round_robin, least_connections (weighted_round_robin: see
Helios/Props/C05W.lean).
-/
namespace Helios.LB

/-- indices chosen by `m` consecutive round-robin picks -/
def rrSeq (pool : List Backend) (now : Nat) : Nat → Nat → List Nat
  | 0, _ => []
  | m+1, cur =>
    let r := rrPick pool now cur
    (match r.2 with | some i => [i] | none => []) ++ rrSeq pool now m r.1

theorem rrPick_all_eligible (pool : List Backend) (now cur : Nat) (hn : 0 < pool.length)
    (hall : ∀ b ∈ pool, b.eligible now = true) (hw : cur + 1 < two64) :
    rrPick pool now cur = (cur + 1, some ((cur + 1) % pool.length)) := by
  have h := rrLoop_succ pool now (pool.length - 1) cur hn hw
  rw [Nat.sub_add_cancel hn] at h
  rw [rrPick, if_neg (Nat.ne_of_gt hn), h, if_pos (hall _ (List.getElem_mem _))]

theorem rrSeq_all_eligible (pool : List Backend) (now : Nat) (hn : 0 < pool.length)
    (hall : ∀ b ∈ pool, b.eligible now = true) (m : Nat) : ∀ cur, cur + m < two64 →
    rrSeq pool now m cur = (List.range' (cur + 1) m).map (· % pool.length) := by
  induction m with
  | zero => intro cur _; rfl
  | succ k ih =>
    intro cur hw
    have hw' : cur + 1 + k < two64 := Nat.add_right_comm .. ▸ hw
    rw [rrSeq, rrPick_all_eligible pool now cur hn hall (Nat.lt_of_le_of_lt (Nat.le_add_right _ k) hw'), ih (cur + 1) hw']
    rfl

/-- **Round robin, exact shares.** With all `n` backends eligible, any `n·k` consecutive picks, from
any rotation position short of a wrap of the 64-bit counter, give every backend exactly `k` of them.
Each pick is one atomic increment, so the sequence is any interleaving of concurrent pickers. -/
theorem rr_exact (pool : List Backend) (now cur k : Nat) (hn : 0 < pool.length)
    (hall : ∀ b ∈ pool, b.eligible now = true) (hw : cur + pool.length * k < two64)
    (j : Nat) (hj : j < pool.length) :
    (rrSeq pool now (pool.length * k) cur).count j = k := by
  -- the picks are a stretch of the sequence `t ↦ t % n`, whose first period is `0 … n-1`
  have h0 : (List.range pool.length).map (· % pool.length) = List.range pool.length :=
    (List.map_congr_left fun t ht => Nat.mod_eq_of_lt (List.mem_range.mp ht)).trans (List.map_id' _)
  rw [rrSeq_all_eligible pool now hn hall _ cur hw,
    count_periods (· % pool.length) _ (fun t => Nat.add_mod_right t _), h0, List.count_range, if_pos hj,
    Nat.mul_one]

/-- **Least connections.** The chosen backend is eligible and its in-flight gauge is
minimal among all eligible backends (for the gauge values the scan read). -/
theorem lc_min (pool : List Backend) (now r : Nat) (h : lcPick pool now = some r) :
    ∃ b, pool[r]? = some b ∧ b.eligible now = true ∧
      ∀ b' ∈ pool, b'.eligible now = true → b.conns ≤ b'.conns :=
  (lcPick_spec pool now).1 r h

theorem normWeight_pos (w : Int) : 1 ≤ normWeight w := by
  fun_cases normWeight w <;> omega

private def mkb (n : String) : Backend := { name := n, weight := 1, healthy := true, until_ := none, conns := 0, cw := 0 }
example : rrSeq [mkb "a", mkb "b", mkb "c"] 0 6 7 = [2, 0, 1, 2, 0, 1] := by decide

end Helios.LB
