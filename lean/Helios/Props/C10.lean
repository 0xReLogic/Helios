import Helios.Model.Admin
/-
C10 — Admin API access control: bearer token and IP allow/deny fail closed.
-/
namespace Helios.Admin

/-- **Bearer token, exactly**: no other spelling, case, spacing, prefix or suffix passes. -/
theorem bearer_exact (token authz : Text) :
    bearerOK token authz = true ↔ authz = bearerPrefix ++ token := by
  simp only [bearerOK, Bool.and_eq_true, beq_iff_eq, List.isPrefixOf_iff_prefix]
  constructor
  · rintro ⟨⟨t, rfl⟩, h⟩; exact congrArg (bearerPrefix ++ ·) h
  · rintro rfl; exact ⟨List.prefix_append _ _, rfl⟩

/-- **401 unless exactly `Bearer <token>`.** With a token configured, an endpoint other than `/v1/health` is
served iff the first Authorization value is exactly that (the request having passed the IP filter). -/
theorem auth_exact (f : Filter) (token : Text) (r : Req) (rt : Route)
    (ht : token ≠ []) (hip : ipStage f r.peer = .pass)
    (hrt : routes.find? (·.path = r.path) = some rt) (hauth : rt.auth = true) :
    (decide f token r = .served ↔ r.authz = bearerPrefix ++ token) ∧
    (decide f token r ≠ .served → decide f token r = .unauthorized) := by
  have hne := bne_iff_ne.2 ht
  simp only [decide, hip, hrt, hauth, hne, Bool.true_and]
  rw [← bearer_exact]
  cases bearerOK token r.authz <;> simp

theorem health_only_open : ∀ rt ∈ routes, rt.auth = false → rt.path = "/v1/health" := by
  decide

theorem no_token_no_401 (f : Filter) (r : Req) : decide f [] r ≠ .unauthorized := by
  fun_cases decide f [] r with
  | case1 | case2 | case4 => nofun
  | case3 _ _ _ h => simp at h

theorem isAllowed_some (allow deny : List Net) (ip : IP) :
    isAllowed allow deny (some ip) = true ↔
      (∀ n ∈ deny, n.contains ip = false) ∧ (allow = [] ∨ ∃ n ∈ allow, n.contains ip = true) := by
  simp [isAllowed]

theorem isAllowed_deny {allow deny : List Net} {ip : IP} {n : Net} (hn : n ∈ deny) (hc : n.contains ip = true) :
    isAllowed allow deny (some ip) = false :=
  if_pos (List.any_eq_true.mpr ⟨n, hn, hc⟩)

/-- **IP policy.** With well-formed lists a request gets past the filter iff its peer address parses, is in no
deny entry, and the allow list is empty or contains it. -/
theorem ip_policy (allow deny : List Net) (peer : Option IP) :
    ipStage ⟨some allow, some deny, true⟩ peer = .pass ↔
      ∃ ip, peer = some ip ∧ (∀ n ∈ deny, n.contains ip = false) ∧
        (allow = [] ∨ ∃ n ∈ allow, n.contains ip = true) := by
  cases peer with
  | none => simp [ipStage, isAllowed]
  | some ip => simp [ipStage, ← isAllowed_some]

/-- a peer inside a deny entry is refused whatever the allow list says -/
theorem deny_wins (f : Filter) (token : Text) (r : Req) (allow deny : List Net) (ip : IP) (n : Net)
    (hf : f = ⟨some allow, some deny, true⟩) (hp : r.peer = some ip) (hn : n ∈ deny) (hc : n.contains ip = true) :
    decide f token r = .forbidden := by
  simp [decide, ipStage, hf, hp, isAllowed_deny hn hc]

/-- **Unparsable peer addresses are refused** whenever a filter is configured. -/
theorem unparsable_refused (f : Filter) (token : Text) (r : Req) (hc : f.configured = true) (hp : r.peer = none) :
    decide f token r = .forbidden := by
  have hs : ipStage f none = .refuse := by
    fun_cases ipStage f none with
    | case1 h => simp [hc] at h
    | case2 _ _ _ _ _ h => cases h
    | case3 | case4 => rfl
  simp [decide, hp, hs]

/-- **A malformed list entry never yields an unfiltered API:** everything is refused. -/
theorem malformed_list_fails_closed (f : Filter) (token : Text) (r : Req) (hc : f.configured = true)
    (hbad : f.allow = none ∨ f.deny = none) : decide f token r = .forbidden := by
  rcases hbad with h | h <;> simp [decide, ipStage, hc, h]

/-- **Header independence.** The verdict is a function of the path, the first Authorization value and the parsed
peer address: the request type has no field for X-Forwarded-For / X-Real-IP. -/
theorem header_independent (f : Filter) (token : Text) (r1 r2 : Req)
    (hp : r1.path = r2.path) (ha : r1.authz = r2.authz) (hq : r1.peer = r2.peer) :
    decide f token r1 = decide f token r2 := by
  unfold decide; rw [hp, ha, hq]

/-- **A refused request changes nothing**: 401, 403 and an unknown path leave the balancer state as it was, whatever
the method and body. -/
theorem unauth_no_effect (f : Filter) (token : Text) (st : AState) (r : Req) (method : String) (b : Body)
    (h : (request f token st r method b).1 ≠ .served) :
    (request f token st r method b).2.2 = st := by
  revert h
  fun_cases request f token st r method b with
  | case1 | case2 | case3 => exact fun _ => rfl
  | case4 => exact (absurd rfl ·)

private def tenSlash8 : Net := ⟨.v4 (10 * 2^24), 8⟩
example : tenSlash8.contains (.v4 (10 * 2^24 + 1 * 2^16 + 2 * 2^8 + 3)) = true := by decide
example : tenSlash8.contains (.v4 (203 * 2^24 + 113 * 2^8 + 9)) = false := by decide
example : decide ⟨some [tenSlash8], some [], true⟩ "t".toList
    ⟨"/v1/backends", "Bearer t".toList, some (.v4 (203 * 2^24 + 113 * 2^8 + 9))⟩ = .forbidden := by decide
example : decide ⟨some [tenSlash8], some [], true⟩ "t".toList
    ⟨"/v1/backends", "Bearer t".toList, some (.v4 (10 * 2^24 + 7))⟩ = .served := by decide
example : decide ⟨some [tenSlash8], some [], true⟩ "t".toList
    ⟨"/v1/backends", "bearer t".toList, some (.v4 (10 * 2^24 + 7))⟩ = .unauthorized := by decide

end Helios.Admin
