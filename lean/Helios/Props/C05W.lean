import Helios.Lemmas.Strategy
import Helios.Lemmas.Periodic
/-
C05 (weighted clause) — smooth weighted round robin over a stable candidate set.

The algorithm of `WeightedRoundRobinStrategy.NextBackend` on the eligible backends (in slice
order), abstracted to two parallel lists: running weights `cw : List Int` and configured
weights `w : List Nat` (already normalised to ≥ 1):

    `bump` : cw[j] += w[j]           for every candidate
    `best` : the first index holding the maximum
    `step` : both, then cw[best] -= Σw

Everything rests on one account, `run_account`: from a state whose running weights sum to zero and
stay above −Σw (`Good`), after k picks `cw[j] = cw₀[j] + k·w[j] − Σw·count j`. The second half ties
the abstraction to `wrrPickCore` (Model/Strategy.lean, which the differential ties to the Go code).
-/
namespace Helios.WRR

def total (w : List Nat) : Int := (w.foldl (· + ·) 0 : Nat)

def bump : List Int → List Nat → List Int
  | c :: cs, x :: xs => (c + (x : Int)) :: bump cs xs
  | _, _ => []

/-- index and value of the first maximum -/
def best : List Int → Nat → Option (Nat × Int) → Option (Nat × Int)
  | [], _, acc => acc
  | b :: bs, i, none => best bs (i + 1) (some (i, b))
  | b :: bs, i, some (j, m) => if m < b then best bs (i + 1) (some (i, b)) else best bs (i + 1) (some (j, m))

def step (w : List Nat) (cw : List Int) : List Int × Option Nat :=
  let b := bump cw w
  match best b 0 none with
  | none => (b, none)
  | some (i, _) => (b.modify i (fun c => c - total w), some i)

/-- `k` picks: final running weights and the picks in order -/
def run (w : List Nat) : Nat → List Int → List Int × List (Option Nat)
  | 0, cw => (cw, [])
  | k + 1, cw =>
    let s := step w cw
    let r := run w k s.1
    (r.1, s.2 :: r.2)

def count (j : Nat) (ps : List (Option Nat)) : Nat := (ps.filter (· == some j)).length

def getD0 (l : List Int) (j : Nat) : Int := (l[j]?).getD 0
def getW (w : List Nat) (j : Nat) : Int := ((w[j]?).getD 0 : Nat)

theorem getD0_mem {l : List Int} {j : Nat} (hj : j < l.length) : getD0 l j ∈ l := by
  rw [getD0, List.getElem?_eq_getElem hj]; exact List.getElem_mem hj

theorem mem_getD0 {l : List Int} {x : Int} (hx : x ∈ l) : ∃ j, getD0 l j = x :=
  (List.mem_iff_getElem?.mp hx).imp fun _ hj => congrArg (·.getD 0) hj

theorem sum_nonpos : ∀ (l : List Int), (∀ x ∈ l, x ≤ 0) → l.sum ≤ 0
  | [], _ => Int.le_refl _
  | x :: xs, h => by
    rw [List.sum_cons]
    exact Int.add_nonpos (h x (List.mem_cons_self ..)) (sum_nonpos xs fun y hy => h y (List.mem_cons_of_mem _ hy))

theorem sum_ge (m : Int) : ∀ (l : List Int), (∀ x ∈ l, m ≤ x) → (l.length : Int) * m ≤ l.sum
  | [], _ => by simp
  | x :: xs, h => by
    have := h x (List.mem_cons_self ..)
    have := sum_ge m xs fun y hy => h y (List.mem_cons_of_mem _ hy)
    rw [List.sum_cons, List.length_cons, Int.natCast_add, Int.add_mul]; omega

theorem sum_ge_one (m : Int) (l : List Int) (h : ∀ x ∈ l, m ≤ x) (x : Int) (hx : x ∈ l) :
    ((l.length : Int) - 1) * m + x ≤ l.sum := by
  obtain ⟨s, t, rfl⟩ := List.append_of_mem hx
  have hs := sum_ge m s fun y hy => h y (List.mem_append_left _ hy)
  have ht := sum_ge m t fun y hy => h y (List.mem_append_right _ (List.mem_cons_of_mem _ hy))
  simp only [List.sum_append, List.sum_cons, List.length_append, List.length_cons, Int.natCast_add, Int.natCast_one]
  rw [← Int.add_assoc, Int.add_sub_cancel, Int.add_mul]
  omega

theorem total_cons (x : Nat) (xs : List Nat) : total (x :: xs) = (x : Int) + total xs := by
  simp only [total, ← List.sum_eq_foldl_nat, List.sum_cons, Int.natCast_add]

theorem bump_spec : ∀ (cw : List Int) (w : List Nat), cw.length = w.length →
    (bump cw w).length = w.length ∧ (bump cw w).sum = cw.sum + total w ∧
      ∀ j, getD0 (bump cw w) j = getD0 cw j + getW w j
  | [], [], _ => ⟨rfl, rfl, fun _ => rfl⟩
  | c :: cs, x :: xs, h => by
    obtain ⟨hl, hs, hg⟩ := bump_spec cs xs (Nat.succ.inj h)
    refine ⟨congrArg (· + 1) hl, ?_, fun | 0 => rfl | j + 1 => hg j⟩
    rw [bump, List.sum_cons, List.sum_cons, total_cons, hs, Int.add_assoc, Int.add_assoc, Int.add_left_comm (x : Int)]
  | [], _ :: _, h => nomatch h
  | _ :: _, [], h => nomatch h

theorem sum_modify (l : List Int) (i : Nat) (d : Int) (hi : i < l.length) :
    (l.modify i (fun c => c - d)).sum = l.sum - d := by
  rw [List.modify_eq_take_cons_drop hi]
  conv => rhs; rw [← List.take_append_drop i l, List.drop_eq_getElem_cons hi]
  simp only [List.sum_append, List.sum_cons]; omega

theorem modify_get (l : List Int) (i j : Nat) (d : Int) (hi : i < l.length) :
    getD0 (l.modify i (fun c => c - d)) j = getD0 l j - (if i = j then d else 0) := by
  simp only [getD0, List.getElem?_modify]
  split
  · subst j; simp [List.getElem?_eq_getElem hi]
  · cases l[j]? <;> simp

theorem best_some (l : List Int) : ∀ (i j : Nat) (v : Int), ∃ k m, best l i (some (j, v)) = some (k, m) ∧
    v ≤ m ∧ (∀ x ∈ l, x ≤ m) ∧ (m, k) ∈ (v, j) :: l.zipIdx i := by
  induction l with
  | nil => exact fun i j v => ⟨j, v, rfl, Int.le_refl _, List.forall_mem_nil _, List.mem_cons_self⟩
  | cons b bs ih =>
    intro i j v
    simp only [best, List.forall_mem_cons]
    split
    · rename_i hlt
      obtain ⟨k, m, h1, h2, h3, h4⟩ := ih (i + 1) i b
      exact ⟨k, m, h1, Int.le_trans (Int.le_of_lt hlt) h2, ⟨h2, h3⟩, List.mem_cons_of_mem _ h4⟩
    · rename_i hlt
      obtain ⟨k, m, h1, h2, h3, h4⟩ := ih (i + 1) j v
      exact ⟨k, m, h1, h2, ⟨Int.le_trans (Int.not_lt.mp hlt) h2, h3⟩,
        List.mem_cons.mpr ((List.mem_cons.mp h4).imp_right (List.mem_cons_of_mem _))⟩

theorem best_max (l : List Int) (hl : l ≠ []) :
    ∃ k m, best l 0 none = some (k, m) ∧ l[k]? = some m ∧ ∀ x ∈ l, x ≤ m := by
  obtain ⟨b, bs, rfl⟩ := List.exists_cons_of_ne_nil hl
  obtain ⟨k, m, h1, h2, h3, h4⟩ := best_some bs 1 0 b
  exact ⟨k, m, h1, (List.mem_zipIdx_iff_getElem? (l := b :: bs)).mp h4, List.forall_mem_cons.mpr ⟨h2, h3⟩⟩

/-- Last clause: the picked value is the largest of values whose sum is positive. -/
theorem step_spec (w : List Nat) (cw : List Int) (hlen : cw.length = w.length) (hpos : 0 < total w) :
    (step w cw).1.length = w.length ∧ (step w cw).1.sum = cw.sum ∧
      (∀ j, getD0 (step w cw).1 j = getD0 cw j + getW w j - if (step w cw).2 = some j then total w else 0) ∧
      (∀ i, (step w cw).2 = some i → 0 < cw.sum + total w → 0 < getD0 cw i + getW w i) := by
  obtain ⟨hbl, hbs, hbg⟩ := bump_spec cw w hlen
  have hw : w ≠ [] := by rintro rfl; exact absurd hpos (by decide)
  obtain ⟨i, m, hb, hget, hmax⟩ := best_max (bump cw w) (List.length_pos_iff.mp (hbl ▸ List.length_pos_iff.mpr hw))
  have hi : i < (bump cw w).length := (List.getElem?_eq_some_iff.mp hget).1
  simp only [step, hb, Option.some.injEq]
  refine ⟨by rw [List.length_modify, hbl], ?_, fun j => ?_, fun _ e hs => ?_⟩
  · rw [sum_modify _ _ _ hi, hbs, Int.add_sub_cancel]
  · rw [modify_get _ _ _ _ hi, hbg]
  · subst e
    rw [← hbg, getD0, hget]
    exact Int.not_le.mp fun hm => Int.not_le.mpr hs (hbs ▸ sum_nonpos _ fun x hx => Int.le_trans (hmax x hx) hm)

structure Good (w : List Nat) (cw : List Int) : Prop where
  len : cw.length = w.length
  sum0 : cw.sum = 0
  lower : ∀ j, -(total w) < getD0 cw j

theorem getD0_replicate (n j : Nat) : getD0 (List.replicate n 0) j = 0 := by
  simp only [getD0, List.getElem?_replicate]; split <;> rfl

theorem good_fresh (w : List Nat) (hpos : 0 < total w) : Good w (List.replicate w.length 0) :=
  ⟨List.length_replicate, by simp, fun j => by rw [getD0_replicate]; omega⟩

theorem good_step (w : List Nat) (cw : List Int) (hpos : 0 < total w) (h : Good w cw) :
    Good w (step w cw).1 := by
  obtain ⟨hl, hs, hj, hm⟩ := step_spec w cw h.len hpos
  refine ⟨hl, hs.trans h.sum0, fun j => ?_⟩
  have := h.lower j
  have : 0 ≤ getW w j := Int.natCast_nonneg _
  rw [hj]
  split
  · next hp => have := hm j hp (by rw [h.sum0]; omega); omega
  · omega

theorem count_eq (j : Nat) (ps : List (Option Nat)) : count j ps = ps.count (some j) :=
  List.count_eq_length_filter.symm

theorem run_account (w : List Nat) (hpos : 0 < total w) :
    ∀ (k : Nat) (cw : List Int), Good w cw → Good w (run w k cw).1 ∧ ∀ j,
      getD0 (run w k cw).1 j = getD0 cw j + (k : Int) * getW w j - total w * (count j (run w k cw).2 : Nat)
  | 0, cw, h => ⟨h, fun j => by simp [run, count]⟩
  | k + 1, cw, h => by
    obtain ⟨_, _, hj, _⟩ := step_spec w cw h.len hpos
    obtain ⟨ih1, ih2⟩ := run_account w hpos k (step w cw).1 (good_step w cw hpos h)
    refine ⟨ih1, fun j => ?_⟩
    simp only [run, ih2, hj, count_eq, List.count_cons, beq_iff_eq, Int.natCast_add, Int.add_mul, Int.mul_add]
    split <;> simp <;> omega

/-- **Exactness.** From a fresh pool (all running weights zero), in the first Σw picks candidate j is
picked exactly w[j] times, and the running weights are all zero again. -/
theorem wrr_exact (w : List Nat) (hw : w ≠ []) (hpos : 0 < total w) :
    (∀ j, j < w.length → count j (run w (total w).toNat (List.replicate w.length 0)).2 = (w[j]?).getD 0) ∧
    (run w (total w).toNat (List.replicate w.length 0)).1 = List.replicate w.length 0 := by
  obtain ⟨hg, acct⟩ := run_account w hpos (total w).toNat _ (good_fresh w hpos)
  generalize run w (total w).toNat (List.replicate w.length 0) = r at hg acct
  have hT := Int.le_of_lt hpos
  -- `cw[j] = Σw · d j` with `d j = w[j] − count j`
  have hd : ∀ j, getD0 r.1 j = total w * (getW w j - (count j r.2 : Nat)) := fun j => by
    rw [acct j, getD0_replicate, Int.mul_sub, Int.toNat_of_nonneg hT, Int.zero_add]
  -- it is above `−Σw`, so `d j ≥ 0`: the running weights are non-negative, and their sum is zero
  have hnn : ∀ x ∈ r.1, 0 ≤ x := fun x hx => by
    obtain ⟨j, rfl⟩ := mem_getD0 hx
    have := hg.lower j
    rw [hd j, ← Int.mul_neg_one] at this
    rw [hd j]
    exact Int.mul_nonneg hT (Int.add_one_le_of_lt (Int.lt_of_mul_lt_mul_left this hT))
  have hz : ∀ x ∈ r.1, x = 0 := fun x hx => by
    have := sum_ge_one 0 r.1 hnn x hx
    have := hnn x hx
    rw [hg.sum0] at *; omega
  refine ⟨fun j hj => ?_, List.eq_replicate_iff.mpr ⟨hg.len, hz⟩⟩
  have := (hd j).symm.trans (hz _ (getD0_mem (hg.len ▸ hj)))
  have := (Int.mul_eq_zero.mp this).resolve_left (Int.ne_of_gt hpos)
  simp only [getW] at this; omega

theorem drift_of_good (w : List Nat) (hpos : 0 < total w) (cw : List Int) (h : Good w cw) (k j : Nat)
    (hj : j < w.length) :
    total w * ((count j (run w k cw).2 : Nat) : Int) < getD0 cw j + (k : Int) * getW w j + total w ∧
    getD0 cw j + (k : Int) * getW w j ≤ total w * ((count j (run w k cw).2 : Nat) : Int)
        + ((w.length : Int) - 1) * (total w - 1) := by
  obtain ⟨hg, acct⟩ := run_account w hpos k _ h
  have h1 := acct j
  generalize run w k cw = r at hg h1 ⊢
  have hlow := hg.lower j
  -- every other running weight is at least `1 − Σw`, and they all sum to zero
  have hup := sum_ge_one (-(total w - 1)) r.1 (fun x hx => by obtain ⟨i, rfl⟩ := mem_getD0 hx; have := hg.lower i; omega)
    _ (getD0_mem (hg.len ▸ hj))
  rw [hg.sum0, hg.len, Int.mul_neg] at hup
  constructor <;> omega

/-- **Bounded drift.** From a fresh pool, after ANY number `k` of picks candidate j has been picked
within a constant of its share `k·w[j]/Σw` (less than 1 above, at most n−1 below, n candidates):
`k·w[j] − (n−1)(Σw−1) ≤ Σw·count_j(k) < k·w[j] + Σw`. -/
theorem wrr_drift (w : List Nat) (hw : w ≠ []) (hpos : 0 < total w) (k : Nat) (j : Nat) (hj : j < w.length) :
    total w * ((count j (run w k (List.replicate w.length 0)).2 : Nat) : Int) < (k : Int) * getW w j + total w ∧
    (k : Int) * getW w j ≤ total w * ((count j (run w k (List.replicate w.length 0)).2 : Nat) : Int)
        + ((w.length : Int) - 1) * (total w - 1) := by
  simpa only [getD0_replicate, Int.zero_add] using drift_of_good w hpos _ (good_fresh w hpos) k j hj

def fresh (w : List Nat) : List Int := List.replicate w.length 0

def state (w : List Nat) (k : Nat) : List Int := (run w k (fresh w)).1
def pick (w : List Nat) (k : Nat) : Option Nat := (step w (state w k)).2

theorem run_snoc (w : List Nat) : ∀ (k : Nat) (cw : List Int),
    run w (k + 1) cw = ((step w (run w k cw).1).1, (run w k cw).2 ++ [(step w (run w k cw).1).2])
  | 0, _ => rfl
  | k + 1, cw => by rw [run, run_snoc w k]; rfl

theorem state_succ (w : List Nat) (k : Nat) : state w (k + 1) = (step w (state w k)).1 :=
  congrArg Prod.fst (run_snoc w k _)

theorem picks_eq (w : List Nat) : ∀ k, (run w k (fresh w)).2 = (List.range k).map (pick w)
  | 0 => rfl
  | k + 1 => by rw [run_snoc, List.range_succ, List.map_append, ← picks_eq w k]; rfl

/-- **Period.** After Σw picks a fresh pool is fresh again, so states and picks repeat. -/
theorem wrr_period (w : List Nat) (hw : w ≠ []) (hpos : 0 < total w) :
    ∀ k, state w (k + (total w).toNat) = state w k ∧ pick w (k + (total w).toNat) = pick w k := by
  have hs : ∀ k, state w (k + (total w).toNat) = state w k := by
    intro k
    induction k with
    | zero => simpa [state, run, fresh] using (wrr_exact w hw hpos).2
    | succ k ih => rw [Nat.add_right_comm, state_succ, state_succ, ih]
  exact fun k => ⟨hs k, by simp only [pick, hs k]⟩

/-- **Every window.** From a fresh pool, in every window of Σw consecutive picks, at any offset `s`,
candidate j is picked exactly w[j] times. -/
theorem wrr_window (w : List Nat) (hw : w ≠ []) (hpos : 0 < total w) (j : Nat) (hj : j < w.length) :
    ∀ s, count j ((List.range' s (total w).toNat).map (pick w)) = (w[j]?).getD 0 := by
  intro s
  rw [count_eq, count_window (pick w) _ (fun k => (wrr_period w hw hpos k).2), ← picks_eq, ← count_eq]
  exact (wrr_exact w hw hpos).1 j hj

end Helios.WRR

namespace Helios.LB
open Helios.WRR

def elig (now : Nat) (l : List Backend) : List Backend := l.filter (·.eligible now)

/-- number of eligible backends among the first `n` -/
def rank (now : Nat) (l : List Backend) (n : Nat) : Nat := (elig now (l.take n)).length

theorem eligible_cw (b : Backend) (c : Int) (now : Nat) : ({ b with cw := c } : Backend).eligible now = b.eligible now := rfl

theorem elig_bump (pool : List Backend) (now : Nat) :
    (elig now (wrrBump pool now)).map (·.cw) = bump ((elig now pool).map (·.cw)) ((elig now pool).map (·.weight)) := by
  induction pool with
  | nil => rfl
  | cons b bs ih =>
    simp only [elig, wrrBump, List.map_cons] at ih ⊢
    by_cases hb : b.eligible now = true
    · simp only [hb, if_true, List.filter_cons, eligible_cw, List.map_cons, bump, ih]
    · simp only [hb, Bool.false_eq_true, if_false, List.filter_cons]
      exact ih

theorem wrrTotal_elig (pool : List Backend) (now : Nat) :
    (wrrTotal pool now : Int) = total ((elig now pool).map (·.weight)) := by
  simp only [wrrTotal, total, elig, List.foldl_map]

/-- The scan over the pool is the scan over the running weights of the eligible sub-list, once
pool indices are renamed to sub-list indices: `f` is any renaming that sends the `k`-th backend
still to be scanned to `i'` plus its rank. -/
theorem wrrBest_elig (now : Nat) (f : Nat → Nat) : ∀ (l : List Backend) (i i' : Nat) (acc : Option (Nat × Int)),
    (∀ k, f (i + k) = i' + rank now l k) →
    best ((elig now l).map (·.cw)) i' (acc.map (Prod.map f id)) = (wrrBest now l i acc).map (Prod.map f id)
  | [], _, _, _, _ => rfl
  | b :: bs, i, i', acc, hf => by
    have h0 : f i = i' := hf 0
    cases hb : b.eligible now with
    | false =>
      simp only [wrrBest, elig, List.filter_cons, hb, Bool.false_eq_true, if_false]
      refine wrrBest_elig now f bs (i + 1) i' acc fun k => ?_
      rw [Nat.add_right_comm, Nat.add_assoc, hf (k + 1)]
      simp [rank, elig, hb]
    | true =>
      have ih := fun acc => wrrBest_elig now f bs (i + 1) (i' + 1) acc fun k => by
        rw [Nat.add_right_comm, Nat.add_assoc, hf (k + 1)]
        simp [rank, elig, hb]; omega
      simp only [wrrBest, elig, List.filter_cons, hb, if_true, List.map_cons] at ih ⊢
      cases acc with
      | none => simpa only [best, Option.map, Prod.map, h0, id] using ih (some (i, b.cw))
      | some p =>
        simp only [best, Option.map, Prod.map, id]
        split
        · simpa only [Option.map, Prod.map, h0, id] using ih (some (i, b.cw))
        · exact ih (some p)

theorem elig_modify (now : Nat) (d : Int) : ∀ (l : List Backend) (fi : Nat) (b : Backend),
    l[fi]? = some b → b.eligible now = true →
    (elig now (l.modify fi (fun b => { b with cw := b.cw - d }))).map (·.cw) =
      ((elig now l).map (·.cw)).modify (rank now l fi) (fun c => c - d)
  | [], _, _, h, _ => nomatch h
  | x :: xs, 0, _, rfl, hb => by simp [elig, rank, hb, eligible_cw]
  | x :: xs, fi + 1, b, h, hb => by
    have ih := elig_modify now d xs fi b h hb
    simp only [elig, rank, List.modify_succ_cons, List.take_succ_cons, List.filter_cons] at ih ⊢
    split
    · simp only [List.map_cons, List.length_cons, List.modify_succ_cons, ih]
    · exact ih

theorem rank_bump (pool : List Backend) (now n : Nat) : rank now (wrrBump pool now) n = rank now pool n := by
  simp only [rank, elig, ← List.countP_eq_length_filter, ← List.map_take, wrrBump, List.countP_map]
  congr 1; funext b
  simp only [Function.comp]
  split <;> rfl

theorem wrrPickCore_elig (pool : List Backend) (now : Nat) :
    step ((elig now pool).map (·.weight)) ((elig now pool).map (·.cw)) =
      ((elig now (wrrPickCore pool now).1).map (·.cw), (wrrPickCore pool now).2.map (rank now pool)) := by
  have hb := elig_bump pool now
  have hbest : best ((elig now (wrrBump pool now)).map (·.cw)) 0 none = _ :=
    wrrBest_elig now (rank now pool) (wrrBump pool now) 0 0 none fun k => by
      rw [Nat.zero_add, Nat.zero_add, rank_bump]
  simp only [wrrPickCore, step, ← hb, hbest]
  obtain ⟨h, _⟩ | ⟨p, b, h, hb, hbe⟩ := wrrBest_spec now (wrrBump pool now) 0 none <;> rw [h]
  · rfl
  · rw [elig_modify now _ _ _ b (List.mem_zipIdx_iff_getElem?.mp hb) hbe, rank_bump, wrrTotal_elig]
    rfl

/-- **Refinement, general.** `wrrPickCore` (the selection of `NextBackend`, after the reset check) acts
on the eligible sub-list like the abstract step: the running weights of the eligible backends
afterwards are the abstract step's, and the backend picked is eligible and is the abstract pick
counted among the eligible ones. (No theorem iterates it against `WRR.run`.) -/
theorem core_refines_elig (pool : List Backend) (now : Nat) :
    (elig now (wrrPickCore pool now).1).map (·.cw) =
      (step ((elig now pool).map (·.weight)) ((elig now pool).map (·.cw))).1 ∧
    (match (wrrPickCore pool now).2, (step ((elig now pool).map (·.weight)) ((elig now pool).map (·.cw))).2 with
     | none, none => True
     | some fi, some ki => (∃ b, pool[fi]? = some b ∧ b.eligible now = true) ∧ ki = rank now pool fi
     | _, _ => False) := by
  rw [wrrPickCore_elig]
  refine ⟨rfl, ?_⟩
  cases h : (wrrPickCore pool now).2 with
  | none => trivial
  | some fi => exact ⟨(wrrPickCore_spec now rfl).1 fi h, rfl⟩

/-- **Refinement.** On a pool whose backends are all eligible, `wrrPickCore` picks the index the
abstract step picks and leaves the running weights it leaves. -/
theorem core_refines (pool : List Backend) (now : Nat) (h : ∀ b ∈ pool, b.eligible now = true) :
    (wrrPickCore pool now).2 = (step (pool.map (·.weight)) (pool.map (·.cw))).2 ∧
    (wrrPickCore pool now).1.map (·.cw) = (step (pool.map (·.weight)) (pool.map (·.cw))).1 := by
  have hp : elig now pool = pool := List.filter_eq_self.mpr h
  have hq : elig now (wrrPickCore pool now).1 = (wrrPickCore pool now).1 :=
    List.filter_eq_self.mpr ((allEligible_congr (wrrPickCore_map (·.eligible now) (fun _ _ => rfl) pool now) true).mpr h)
  have he := wrrPickCore_elig pool now
  rw [hp, hq] at he
  rw [he]
  refine ⟨?_, rfl⟩
  cases hfi : (wrrPickCore pool now).2 with
  | none => rfl
  | some fi =>
    obtain ⟨b, hb, _⟩ := (wrrPickCore_spec now rfl).1 fi hfi
    have := (List.getElem?_eq_some_iff.mp hb).1
    rw [Option.map_some, rank, elig, List.filter_eq_self.mpr fun b hb => h b (List.mem_of_mem_take hb),
      List.length_take, Nat.min_eq_left (Nat.le_of_lt this)]

/-- **Histories.** When the set of candidates differs from the previous pick's (a backend was added,
removed, ejected or came back), `NextBackend` first restarts every running weight from zero: the
eligible sub-list is a fresh pool again, whatever the history before it. -/
theorem reset_fresh (pool : List Backend) (ids lastEl : List Nat) (now : Nat)
    (hchg : eligibleIds pool ids now ≠ lastEl) :
    (elig now (wrrReset pool ids lastEl now)).map (·.cw) = List.replicate (elig now pool).length 0 ∧
    (elig now (wrrReset pool ids lastEl now)).map (·.weight) = (elig now pool).map (·.weight) := by
  simp only [wrrReset, if_neg hchg, elig, List.filter_map, List.map_map]
  exact ⟨List.map_const' .., rfl⟩

theorem reset_same (pool : List Backend) (ids lastEl : List Nat) (now : Nat)
    (hsame : eligibleIds pool ids now = lastEl) : wrrReset pool ids lastEl now = pool := by
  simp [wrrReset, hsame]

end Helios.LB
