import Helios.Lemmas.Base
/-
C14 — size_limit plugin: bodies are bounded, and a response of the shape httputil.ReverseProxy produces
(headers, one WriteHeader, writes and flushes) that stays within bounds goes through untouched.
-/
namespace Helios.Http

/-- body bytes an operation carries, as the plugin counts them -/
def opLen (gzLen : Body → Nat) : Op → Nat
  | .w c => c.1
  | .wgz b => gzLen b
  | _ => 0

def opsLen (gzLen : Body → Nat) (ops : List Op) : Nat := ops.foldl (fun a o => a + opLen gzLen o) 0

theorem opsLen_cons (gzLen : Body → Nat) (o : Op) (ops : List Op) :
    opsLen gzLen (o :: ops) = opLen gzLen o + opsLen gzLen ops := foldl_add_cons ..

theorem opsLen_append (gzLen : Body → Nat) (a b : List Op) :
    opsLen gzLen (a ++ b) = opsLen gzLen a + opsLen gzLen b := foldl_add_append ..

/-- `ensureHeaderWritten` -/
theorem lim_ensure_frame (gzLen : Body → Nat) (l : Lim) : ∃ c, l.ensure.2 = { l with wroteHeader := true, statusCode := c } ∧
    opsLen gzLen l.ensure.1 = 0 := by
  fun_cases Lim.ensure l with
  | case1 h => exact ⟨l.statusCode, by rw [← h], rfl⟩
  | case2 => exact ⟨_, rfl, rfl⟩

/-- `Write` -/
theorem Lim.step_write (gzLen : Body → Nat) (l : Lim) {op : Op} (hop : op.isWrite) :
    l.step gzLen op =
      if l.limitReached then ([], l)
      else if l.written + opLen gzLen op > l.limit then
        if l.wroteHeader then ([], { l with limitReached := true })
        else ([.wh 413], { l with limitReached := true, statusCode := 413, wroteHeader := true })
      else (l.ensure.1 ++ [op], { l.ensure.2 with written := l.ensure.2.written + opLen gzLen op }) := by
  cases op with
  | w c => rfl
  | wgz b => rfl
  | fl => exact absurd rfl hop.2
  | _ => exact hop.1.elim

theorem Lim.step_wh (gzLen : Body → Nat) (l : Lim) (c : Nat) :
    l.step gzLen (.wh c) = if l.wroteHeader then ([], l) else if c ≥ 100 ∧ c < 200 then ([.wh c], l)
      else ([], { l with statusCode := c }) := rfl

/-- bytes handed on come out of the room left under the limit: in any state, within it or not -/
theorem lim_step_room (gzLen : Body → Nat) (l : Lim) (op : Op) :
    opsLen gzLen (l.step gzLen op).1 + ((l.step gzLen op).2.limit - (l.step gzLen op).2.written) = l.limit - l.written := by
  obtain ⟨c, ee, e1⟩ := lim_ensure_frame gzLen l
  have e0 : opsLen gzLen [] = 0 := rfl
  fun_cases Lim.step gzLen l op with
  | case10 =>
    simp +zetaDelta only [opsLen_append, opsLen_cons, e0, e1, ee, Nat.add_zero, Nat.zero_add, Nat.sub_add_eq]
    exact Nat.add_sub_of_le (Nat.le_sub_of_add_le' (Nat.le_of_not_gt ‹_›))
  | _ => simp +zetaDelta [opsLen_append, opsLen_cons, opLen, *]

theorem transLim_room (gzLen : Body → Nat) (ops : List Op) : ∀ (l : Lim),
    opsLen gzLen (transLim gzLen l ops).1 ≤ l.limit - l.written := by
  induction ops with
  | nil => exact fun l => Nat.zero_le _
  | cons op ops ih =>
    intro l
    rw [transLim, opsLen_append, ← lim_step_room gzLen l op]
    exact Nat.add_le_add_left (ih _) _

/-- **Response bound.** Whatever the handler does, the plugin passes at most `max_response_body`
bytes of body down to the client connection. -/
theorem resp_bounded (gzLen : Body → Nat) (ops : List Op) : ∀ (l : Lim), l.written ≤ l.limit →
    opsLen gzLen (transLim gzLen l ops).1 + l.written ≤ l.limit :=
  fun l h => Nat.add_le_of_le_sub h (transLim_room gzLen ops l)

/-- **413 when the excess is detected before anything was sent.** The first write that would
cross the limit while no header has gone out is answered 413 and not forwarded; the next write is dropped. -/
theorem resp_413_if_early (gzLen : Body → Nat) (l : Lim) (c : Chunk)
    (hw : l.wroteHeader = false) (hr : l.limitReached = false) (hover : l.written + c.1 > l.limit) :
    (l.step gzLen (.w c)).1 = [.wh 413] ∧ (l.step gzLen (.w c)).2.limitReached = true ∧
    ∀ c', ((l.step gzLen (.w c)).2.step gzLen (.w c')).1 = [] := by
  simp [Lim.step, hw, hr, hover]

theorem transLim_headers (gzLen : Body → Nat) (hs : List Op) (hh : headerOnly hs) (rest : List Op) (l : Lim) :
    transLim gzLen l (hs ++ rest) = (hs ++ (transLim gzLen l rest).1, (transLim gzLen l rest).2) := by
  induction hs with
  | nil => rfl
  | cons h hs ih =>
    obtain ⟨hop, hh'⟩ := List.forall_mem_cons.mp hh
    cases h with
    | setH _ _ | delH _ => exact congrArg (fun r => (_ :: r.1, r.2)) (ih hh')
    | _ => exact nomatch hop

/-- `r`: room kept for what follows -/
theorem lim_step_fits (gzLen : Body → Nat) (l : Lim) {o : Op} (ho : (∃ c, o = .w c) ∨ o = .fl)
    (hr : l.limitReached = false) (r : Nat) (hfit : l.written + (opLen gzLen o + r) ≤ l.limit) :
    ∃ l', l.step gzLen o = (l.ensure.1 ++ [o], l') ∧ l'.ensure.1 = [] ∧ l'.limitReached = false ∧
      l'.written + r ≤ l'.limit := by
  obtain ⟨sc, ee, _⟩ := lim_ensure_frame gzLen l
  have e : l.step gzLen o = (l.ensure.1 ++ [o], { l.ensure.2 with written := l.ensure.2.written + opLen gzLen o }) := by
    rcases ho with ⟨c, rfl⟩ | rfl
    · exact (if_neg (hr ▸ Bool.false_ne_true)).trans
        (if_neg (Nat.not_lt.mpr (Nat.le_trans (Nat.add_le_add_left (Nat.le_add_right ..) _) hfit)))
    · rfl
  rw [e, ee]
  exact ⟨_, rfl, rfl, hr, Nat.add_assoc .. ▸ hfit⟩

/-- the status line owed goes out before the first body operation, or at the end -/
theorem transLim_body_finish (gzLen : Body → Nat) (body : List Op) (hb : bodyOnly body) : ∀ (l : Lim),
    l.limitReached = false → l.written + opsLen gzLen body ≤ l.limit →
    (transLim gzLen l body).1 ++ (transLim gzLen l body).2.finish.1 =
      (if l.statusCode = 0 ∧ body = [] then [] else l.ensure.1) ++ body := by
  induction body with
  | nil =>
    intro l _ _
    by_cases hs : l.statusCode = 0 <;> simp [transLim, Lim.finish, hs]
  | cons o os ih =>
    intro l hr hfit
    rw [opsLen_cons] at hfit
    obtain ⟨ho, hb'⟩ := List.forall_mem_cons.mp hb
    obtain ⟨l', e, k1, k2, k3⟩ := lim_step_fits gzLen l ho hr _ hfit
    -- the status line is out now: either branch is `[]`
    have := ih hb' l' k2 k3
    rw [k1, ite_self] at this
    rw [transLim, e, List.append_assoc, this, if_neg (fun h => nomatch h.2)]
    exact List.append_assoc ..

/-- **Within the limit, explicit status.** A response `headers; WriteHeader(c); writes/flushes`
whose body fits the limit goes through the plugin as exactly the same sequence of operations — for every status `c ≥ 200`, bodiless ones included. -/
theorem within_transparent (gzLen : Body → Nat) (limit : Nat) (hs body : List Op) (c : Nat)
    (hh : headerOnly hs) (hb : bodyOnly body) (hc : 200 ≤ c) (hfit : opsLen gzLen body ≤ limit) :
    let t := transLim gzLen { limit := limit } (hs ++ [.wh c] ++ body)
    t.1 ++ t.2.finish.1 = hs ++ [.wh c] ++ body := by
  intro t
  have hc0 : c ≠ 0 := fun h => absurd (h ▸ hc) (by decide)
  have e : t = _ := (congrArg _ (List.append_assoc ..)).trans (transLim_headers gzLen hs hh _ _)
  have hst : ({ limit := limit } : Lim).step gzLen (.wh c) = ([], { limit := limit, statusCode := c }) := by
    rw [Lim.step_wh, if_neg Bool.false_ne_true, if_neg (fun h => Nat.lt_irrefl _ (Nat.lt_of_lt_of_le h.2 hc))]
  rw [e, List.singleton_append, transLim, hst]
  have := transLim_body_finish gzLen body hb { limit := limit, statusCode := c } rfl ((Nat.zero_add _).symm ▸ hfit)
  simp only [List.nil_append, List.append_assoc] at this ⊢
  rw [this, if_neg (fun h => hc0 h.1)]
  simp only [Lim.ensure, Bool.false_eq_true, if_false, if_neg hc0, List.singleton_append]

/-- **Within the limit, implicit status.** A response `headers; writes/flushes` without
WriteHeader is forwarded with an explicit 200 before its first body operation, which the
client cannot distinguish; an entirely empty response is forwarded untouched. -/
theorem within_transparent_implicit (gzLen : Body → Nat) (limit : Nat) (hs body : List Op) (b : Base)
    (hh : headerOnly hs) (hb : bodyOnly body) (hfit : opsLen gzLen body ≤ limit) :
    let t := transLim gzLen { limit := limit } (hs ++ body)
    (b.run (t.1 ++ t.2.finish.1)).view = (b.run (hs ++ body)).view := by
  intro t
  have e : t = _ := transLim_headers gzLen hs hh _ _
  have := transLim_body_finish gzLen body hb { limit := limit } rfl ((Nat.zero_add _).symm ▸ hfit)
  rw [e, List.append_assoc, this]
  cases body with
  | nil => simp
  | cons o os =>
    have ho : o.isBody := by rcases hb o (List.mem_cons_self ..) with ⟨c, rfl⟩ | rfl <;> trivial
    rw [if_neg (fun h => nomatch h.2), run_append, run_append, run_append]
    show ((((b.run hs).step (.wh 200)).step o).run os).view = _
    rw [step_wh200 _ ho]; rfl

/-- **Request gate.** A request that declares more than `max_request_body` bytes is answered
413 before any inner plugin or the backend runs; exactly the limit passes; and whatever passes
can be read for at most `max_request_body` bytes. -/
theorem req_gate (gzLen : Body → Nat) (mr mp : Nat) (ps : List Plugin) (req : Request) (h : Hdr)
    (inner : Request → List Op) :
    (∀ d, req.declared = some d → d > mr →
        serve gzLen (.sizeLimit mr mp :: ps) req h inner = (httpError 413 litTooLarge, [])) ∧
    (∀ d, req.declared = some d → d ≤ mr →
        (serve gzLen (.sizeLimit mr mp :: ps) req h inner).2 =
          (serve gzLen ps { req with bodyCap := some (match req.bodyCap with | some c => min c mr | none => mr) } h inner).2) ∧
    (match req.bodyCap with | some c => min c mr | none => mr) ≤ mr := by
  refine ⟨fun d hd hgt => ?_, fun d hd hle => ?_, ?_⟩
  · simp only [serve, tooLarge, hd, decide_eq_true hgt, if_true]
  · simp only [serve, tooLarge, hd, decide_eq_false (Nat.not_lt.mpr hle), Bool.false_eq_true, if_false]
    rfl
  · cases req.bodyCap
    · exact Nat.le_refl _
    · exact Nat.min_le_right ..

-- statuses lost before the repair, and the 413
private def gl : Body → Nat := fun _ => 0
example : (transLim gl { limit := 10 } [.setH "Content-Type" "a/b", .wh 204]).1 ++
    (transLim gl { limit := 10 } [.setH "Content-Type" "a/b", .wh 204]).2.finish.1 = [.setH "Content-Type" "a/b", .wh 204] := rfl
example : ((Base.run { head := false } ((transLim gl { limit := 10 } [.wh 201, .fl, .w (2, 0)]).1)).view).status = 201 := by decide
example : ((Base.run { head := false } ((transLim gl { limit := 3 } [.wh 200, .w (4, 0)]).1)).view).status = 413 := by decide

end Helios.Http
