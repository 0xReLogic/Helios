import Helios.Lemmas.Abs
import Helios.Lemmas.Strategy
/-
Tie C for the selection functions of two strategies (C02/C05): `NextBackend` of least connections returns the backend in
the slot the model's `lcPick` names, `NextBackend` of round robin advances the counter as the model's `rrPick` does and
returns the backend in the slot it names.
-/
namespace Helios.CodeTie
open Helios.Generated

/-- The code carries the selected backend, the model its index; `f` turns the index into the backend. The minimum the
loop ends with is thrown away by its caller, hence `∃ mn'`. -/
theorem lc_scan_sim (lc : Code.LeastConnectionsStrategy) (now : Int) (f : Nat → Option Code.Backend)
    (bs : List Code.Backend) (hu : ∀ b ∈ bs, 0 ≤ b.UnhealthyUntil) (i : Nat) (hf : ∀ k, f (i + k) = bs[k]?)
    (j : Int) (mn : Int) (sel : Option Nat) :
    ∃ mn', Code.lcNextBackend_range1 lc now bs j (sel.bind f, mn) =
      .inr ((LB.lcScan now.toNat (absPool bs) i mn sel).bind f, mn') := by
  induction bs generalizing i j mn sel with
  | nil => exact ⟨mn, rfl⟩
  | cons b bs ih =>
    have he : (absBackend b 0).eligible now.toNat = (Code.eligible b now).2 :=
      eligible_abs b 0 now (hu b (List.mem_cons_self ..))
    have step := ih (fun x hx => hu x (List.mem_cons_of_mem _ hx)) (i + 1)
      (fun k => Nat.add_right_comm i 1 k ▸ hf (k + 1)) (j + 1)
    have hget : (some i).bind f = some b := hf 0
    rw [show absPool (b :: bs) = absBackend b 0 :: absPool bs from rfl, LB.lcScan, he,
      show (absBackend b 0).conns = b.ActiveConnections from rfl]
    dsimp only [Code.lcNextBackend_range1, Code.GetActiveConnections]
    -- the code tests eligibility, then the gauge; the model tests both at once
    cases (Code.eligible b now).2
    · exact step mn sel
    · cases decide (b.ActiveConnections < mn)
      · exact step mn sel
      · exact hget ▸ step b.ActiveConnections (some i)

theorem lcNext_refines (lc : Code.LeastConnectionsStrategy) (now : Int) (hn : 0 ≤ now)
    (hu : ∀ b ∈ lc.backends, 0 ≤ b.UnhealthyUntil) :
    (Code.lcNextBackend lc now).1 = lc ∧
    (Code.lcNextBackend lc now).2 = (LB.lcPick (absPool lc.backends) now.toNat).bind (lc.backends[·]?) := by
  obtain ⟨mn', h⟩ := lc_scan_sim lc now (lc.backends[·]?) lc.backends hu 0 (fun k => by rw [Nat.zero_add]) 0 2147483647 none
  rw [Option.bind_none] at h
  dsimp only [Code.lcNextBackend, LB.lcPick]
  rw [h]
  cases lc.backends <;> exact ⟨rfl, rfl⟩

theorem residues_covered (n cur j : Nat) (hj : j < n) : ∃ t, 1 ≤ t ∧ t ≤ n ∧ (cur + t) % n = j :=
  LB.residues_cover cur n j hj

section rr
variable (bs : List Code.Backend) (now : Int) (hn : 0 ≤ now) (hu : ∀ b ∈ bs, 0 ≤ b.UnhealthyUntil)

/-- the code's eligibility test on slot `j` -/
def el (j : Nat) : Bool := (Code.eligible (Code.listGet bs j) now).2

include hn hu in
/-- The first loop, with `m` turns left, is the model's `rrLoop`; run out, it leaves the index of its last turn (`idx`,
handed in, if there was none). Second part, for `rrNext_refines`: `m` failed turns moved the counter by `m` and found the
slots `(c + t) % n`, `1 ≤ t ≤ m`, ineligible. -/
theorem loop1_sim (m : Nat) : ∀ (fuel c idx i : Nat) (rr : Code.RoundRobinStrategy), rr.backends = bs → rr.current = c →
    i + m = bs.length → m < fuel → c + m < LB.two64 →
    (Code.rrNextBackend_loop1 now bs.length fuel (rr, idx, i) =
      (match LB.rrLoop (absPool bs) now.toNat m c with
       | (c', some j) => some (.inl ((⟨bs, c'⟩ : Code.RoundRobinStrategy), bs[j]?))
       | (c', none) => some (.inr ((⟨bs, c'⟩ : Code.RoundRobinStrategy), (if m = 0 then idx else c' % bs.length), bs.length)))) ∧
    ((LB.rrLoop (absPool bs) now.toNat m c).2 = none →
      (LB.rrLoop (absPool bs) now.toNat m c).1 = c + m ∧ ∀ t, 1 ≤ t → t ≤ m → el bs now ((c + t) % bs.length) = false) := by
  intro fuel c idx i rr hb hc hi hf hw
  rw [show rr = ⟨bs, c⟩ from hb ▸ hc ▸ rfl]
  clear hc
  have hlen : (absPool bs).length = bs.length := List.length_map ..
  have hel : ∀ j (hj : j < (absPool bs).length), (absPool bs)[j].eligible now.toNat = el bs now j := fun j hj => by
    have hj' : j < bs.length := hlen ▸ hj
    rw [el, listGet_lt bs j hj', show (absPool bs)[j] = absBackend bs[j] 0 from List.getElem_map ..]
    exact eligible_abs bs[j] 0 now (hu _ (List.getElem_mem hj'))
  refine ⟨?_, fun h => ?_⟩
  · induction m generalizing fuel c idx i with
    | zero =>
      obtain ⟨fuel, rfl⟩ := fuel_succ hf
      obtain rfl : i = bs.length := hi
      rw [Code.rrNextBackend_loop1, if_neg (by simp)]; rfl
    | succ m ih =>
      obtain ⟨fuel, rfl⟩ := fuel_succ hf
      have hpos : 0 < bs.length := hi ▸ Nat.succ_pos _
      have hidx := Nat.mod_lt (c + 1) hpos
      have hc1 : c + 1 < LB.two64 := Nat.lt_of_le_of_lt (Nat.add_le_add_left (Nat.le_add_left 1 m) c) hw
      rw [Code.rrNextBackend_loop1, if_pos (decide_eq_true (hi ▸ Nat.lt_add_of_pos_right m.succ_pos)),
        LB.rrLoop_succ _ _ _ _ (hlen ▸ hpos) hc1, hel, hlen]
      show (if el bs now ((c + 1) % bs.length) = true then _ else _) = _
      cases el bs now ((c + 1) % bs.length)
      · refine (ih fuel (c + 1) ((c + 1) % bs.length) (i + 1) ((Nat.add_right_comm i 1 m).trans hi) (Nat.lt_of_succ_lt_succ hf)
          (Nat.add_right_comm c 1 m ▸ hw)).trans ?_
        cases m <;> rfl
      · rw [listGet_lt _ _ hidx, ← List.getElem?_eq_getElem hidx]; rfl
  · cases m with
    | zero => exact ⟨rfl, fun t h1 h2 => absurd (Nat.le_trans h1 h2) (Nat.not_succ_le_zero 0)⟩
    | succ m =>
      have hpos : 0 < (absPool bs).length := hlen ▸ hi ▸ Nat.succ_pos _
      have ⟨h1, h2⟩ := LB.rrLoop_none _ _ hpos _ c hw h
      refine ⟨h1, fun t t1 t2 => ?_⟩
      have := h2 (c + t) (Nat.lt_add_of_pos_right t1) (Nat.add_le_add_left t2 c)
      rwa [hel, hlen] at this

/-- when no slot is eligible the second loop (for concurrent pickers) finds nothing either; it runs `i = 1 … n` and takes
one more turn to exit: `i + m = n + 1` -/
theorem loop2_dead (hdead : ∀ j, j < bs.length → el bs now j = false) (m : Nat) :
    ∀ (fuel idx i : Nat) (rr : Code.RoundRobinStrategy), rr.backends = bs → 0 < bs.length → i + m = bs.length + 1 → m < fuel →
    Code.rrNextBackend_loop2 now bs.length idx fuel (rr, i) = some (.inr (rr, bs.length + 1)) := by
  induction m with
  | zero =>
    intro fuel idx i rr hb h0 hi hf
    obtain ⟨fuel, rfl⟩ := fuel_succ hf
    obtain rfl : i = bs.length + 1 := hi
    rw [Code.rrNextBackend_loop2, if_neg (by simp)]
  | succ m ih =>
    intro fuel idx i rr hb h0 hi hf
    obtain ⟨fuel, rfl⟩ := fuel_succ hf
    have hle : i ≤ bs.length := Nat.succ.inj hi ▸ Nat.le_add_right i m
    rw [Code.rrNextBackend_loop2, if_pos (decide_eq_true hle), hb]
    refine (if_neg (Bool.eq_false_iff.mp (hdead _ (Nat.mod_lt _ h0)))).trans ?_
    exact ih fuel idx (i + 1) rr hb h0 ((Nat.add_right_comm i 1 m).trans hi) (Nat.lt_of_succ_lt_succ hf)

include hn hu in
/-- **round robin, as written**: with fuel for both loops (each at most `n` turns and the one that exits: the proof uses
`n < fuel`) and a counter that does not wrap within this call; the second loop never changes the outcome of a pick that
runs alone. -/
theorem rrNext_refines (rr : Code.RoundRobinStrategy) (fuel : Nat) (hb : rr.backends = bs)
    (hf : bs.length + 1 < fuel) (hw : rr.current + bs.length < LB.two64) :
    Code.rrNextBackend fuel rr now =
      some ((⟨bs, (LB.rrPick (absPool bs) now.toNat rr.current).1⟩ : Code.RoundRobinStrategy),
            ((LB.rrPick (absPool bs) now.toNat rr.current).2).bind (bs[·]?)) := by
  rw [show rr = ⟨bs, rr.current⟩ from hb ▸ rfl]
  generalize rr.current = c at hw
  unfold Code.rrNextBackend
  rw [len_beq_zero]
  cases hbs : bs with
  | nil => rfl
  | cons b0 bs0 =>
    rw [← hbs]
    have hpos : 0 < bs.length := hbs ▸ Nat.succ_pos _
    simp only [show bs.isEmpty = false from hbs ▸ rfl, Bool.false_eq_true, if_false, Int.toNat_natCast, Int.ofNat_eq_natCast]
    obtain ⟨h1, h2⟩ := loop1_sim bs now hn hu bs.length fuel c 0 0 ⟨bs, c⟩ rfl rfl (Nat.zero_add _) (Nat.lt_of_succ_lt hf) hw
    rw [h1, LB.rrPick, show (absPool bs).length = bs.length from List.length_map .., if_neg (Nat.ne_of_gt hpos)]
    cases hres : LB.rrLoop (absPool bs) now.toNat bs.length c with
    | mk c' o =>
      cases o with
      | some j => rfl
      | none =>
        -- the turns that failed, `c + 1 … c + n`, visit every slot, so the second loop finds nothing either
        have hdead : ∀ j, j < bs.length → el bs now j = false := fun j hj =>
          have ⟨t, t1, t2, t3⟩ := residues_covered bs.length c j hj
          t3 ▸ (h2 (by rw [hres])).2 t t1 t2
        dsimp only
        rw [loop2_dead bs now hdead bs.length fuel _ 1 ⟨bs, c'⟩ rfl hpos (Nat.add_comm 1 _) (Nat.lt_of_succ_lt hf)]
        rfl
end rr

theorem translation_clean_strat :
    (["lcNextBackend", "rrNextBackend", "GetActiveConnections", "eligible"].all Code.translated.contains) = true ∧
    (Code.translationProblems.filter (fun p => p.1 == "NextBackend" || p.1 == "GetActiveConnections")).isEmpty = true := by
  decide +kernel

end Helios.CodeTie
