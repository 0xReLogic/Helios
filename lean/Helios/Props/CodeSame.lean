import Helios.Lemmas.Go
/-
Tie C for `sameBackends` (C05): the comparison by which the weighted strategy decides whether its candidate set is the one
of the previous pick. Pointer identity is the parameter `ptrEq`.
-/
namespace Helios.CodeTie
open Helios.Generated

theorem same_loop (ptrEq : Code.WeightedBackend → Code.WeightedBackend → Bool) (a b : List Code.WeightedBackend)
    (hlen : a.length = b.length) : ∀ (rest : List Code.WeightedBackend) (i : Nat), i + rest.length = a.length →
    Code.sameBackends_range1 ptrEq a b rest (Int.ofNat i) =
      if (List.zipWith ptrEq (a.drop i) (b.drop i)).all id then none else some false := by
  intro rest
  induction rest with
  | nil =>
    intro i hi
    cases (hi : i = a.length)
    rw [List.drop_length, List.zipWith_nil_left]
    rfl
  | cons x rest ih =>
    intro i hi
    have hia : i < a.length := hi ▸ Nat.lt_add_of_pos_right (Nat.succ_pos _)
    have hib : i < b.length := hlen ▸ hia
    rw [Code.sameBackends_range1, listGet_ofNat a i hia, listGet_ofNat b i hib, show Int.ofNat i + 1 = Int.ofNat (i + 1) from rfl,
      ih (i + 1) ((Nat.add_right_comm i 1 _).trans hi), List.drop_eq_getElem_cons hia, List.drop_eq_getElem_cons hib,
      List.zipWith_cons_cons, List.all_cons]
    cases ptrEq a[i] b[i] <;> rfl

/-- **`sameBackends`, as written**: true exactly when the two lists have the same length and hold the same objects,
position by position -/
theorem sameBackends_refines (ptrEq : Code.WeightedBackend → Code.WeightedBackend → Bool) (a b : List Code.WeightedBackend) :
    Code.sameBackends ptrEq a b = (decide (a.length = b.length) && (List.zipWith ptrEq a b).all id) := by
  unfold Code.sameBackends
  by_cases h : a.length = b.length
  · rw [h, bne_self_eq_false, if_neg Bool.false_ne_true, show (0 : Int) = Int.ofNat 0 from rfl,
      same_loop ptrEq a b h a 0 (Nat.zero_add _), List.drop_zero, List.drop_zero, decide_eq_true rfl, Bool.true_and]
    cases (List.zipWith ptrEq a b).all id <;> rfl
  · rw [if_pos (bne_iff_ne.mpr fun c => h (Int.ofNat.inj c)), decide_eq_false h, Bool.false_and]

/-- a proper prefix is not the same set: comparing only up to the shorter length would keep the running weights of a
pick whose candidate set has since grown -/
example : Code.sameBackends (fun x y => x.currentWeight == y.currentWeight) [⟨true, 1⟩] [⟨true, 1⟩, ⟨true, 2⟩] = false := by decide
example : Code.sameBackends (fun x y => x.currentWeight == y.currentWeight) [⟨true, 1⟩, ⟨true, 2⟩] [⟨true, 1⟩, ⟨true, 2⟩] = true := by decide

theorem translation_clean_same :
    ["sameBackends"].all (fun f => Code.translated.contains f) = true ∧
    (Code.translationProblems.filter (fun p => ["sameBackends"].contains p.1)) = [] := by
  decide +kernel

end Helios.CodeTie
