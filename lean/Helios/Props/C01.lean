import Helios.Lemmas.WireOK
/-
C01 — end-to-end transparency with no transforming plugin configured.
-/
namespace Helios.Proxy
open Http

theorem transLb_id : ∀ (ops : List Op) (l : LbW), (transLb l ops).1 = ops
  | [], _ => rfl
  | op :: rest, l => by cases op <;> exact congrArg (List.cons _) (transLb_id rest _)

theorem transId_done : ∀ (ops : List Op) (want live : Hdr), transId want true live ops = ops
  | [], _, _ => rfl
  | op :: rest, want, live => by
    simp only [transId, Bool.not_true, Bool.and_false, Bool.false_eq_true, if_false, transId_done rest]

theorem transId_prefix : ∀ (pre rest : List Op) (want live : Hdr), (∀ o ∈ pre, o.nonFinal) →
    transId want false live (pre ++ rest) = pre ++ transId want false (pre.foldl applyHdr live) rest
  | [], _, _, _, _ => rfl
  | op :: t, rest, want, live, h => by
    obtain ⟨ho, ht⟩ := List.forall_mem_cons.mp h
    rw [List.cons_append, List.cons_append, List.foldl_cons, ← transId_prefix t rest want _ ht]
    cases op with
    | setH _ _ | delH _ => rfl
    | wh c =>
      have hc : decide (c < 100 ∨ c ≥ 200) = false :=
        decide_eq_false fun h => h.elim (Nat.not_lt.mpr ho.1) fun h => Nat.not_lt.mpr h ho.2
      simp only [transId, hc, Bool.false_and, Bool.false_eq_true, if_false]
    | _ => exact ho.elim

theorem transId_final (want live : Hdr) (st : Nat) (hst : ¬ (st ≥ 100 ∧ st < 200)) (rest : List Op) :
    transId want false live (.wh st :: rest) = ensureOps want live ++ [.wh st] ++ rest := by
  have hc : decide (st < 100 ∨ st ≥ 200) = true :=
    decide_eq_true ((Nat.lt_or_ge st 100).imp_right fun h1 => Nat.not_lt.mp fun h2 => hst ⟨h1, h2⟩)
  simp only [transId, hc, Bool.not_false, Bool.and_self, if_true]
  rw [transId_done]

theorem foldl_setAll (h live : Hdr) : (setAll h).foldl applyHdr live = setFold live h := List.foldl_map

theorem mem_delAll : ∀ (l m : Hdr) (x : String × String), x ∈ (delAll l).foldl applyHdr m → x ∈ m ∧ NoKey l x.1
  | [], _, _, hx => ⟨hx, nokey_nil _⟩
  | _ :: t, _, x, hx =>
    have ⟨h1, h2⟩ := mem_delAll t _ x hx
    ⟨(mem_del.mp h1).1, List.forall_mem_cons.mpr ⟨(mem_del.mp h1).2.symm, h2⟩⟩

theorem round_empties (live h : Hdr) : (delAll (live ++ h)).foldl applyHdr (setFold live h) = [] :=
  List.eq_nil_iff_forall_not_mem.mpr fun x hx =>
    have ⟨hm, hn⟩ := mem_delAll _ _ x hx
    nokey_setFold h (nokey_append.mp hn).1 (nokey_append.mp hn).2 x hm rfl

theorem interim_live : ∀ (ints : List (Nat × Hdr)) (live : Hdr),
    (rpInterim live ints).foldl applyHdr live = if ints = [] then live else []
  | [], _ => rfl
  | (c, h) :: rest, live => by
    simp only [rpInterim, List.foldl_append, List.foldl_cons, List.foldl_nil, applyHdr,
      foldl_setAll, round_empties, interim_live rest []]
    rw [ite_self, if_neg (List.cons_ne_nil _ _)]

theorem setAll_nonfinal (h : Hdr) : ∀ o ∈ setAll h, o.nonFinal := List.forall_mem_map.mpr fun _ _ => trivial

theorem interim_nonfinal : ∀ (ints : List (Nat × Hdr)) (live : Hdr),
    (∀ p ∈ ints, p.1 ≥ 100 ∧ p.1 < 200) → ∀ o ∈ rpInterim live ints, o.nonFinal
  | [], _, _ => List.forall_mem_nil _
  | (c, h) :: rest, live, hc => by
    obtain ⟨h1, h2⟩ := List.forall_mem_cons.mp hc
    simp only [rpInterim, List.forall_mem_append, List.forall_mem_singleton]
    exact ⟨⟨⟨setAll_nonfinal h, h1⟩, List.forall_mem_map.mpr fun _ _ => trivial⟩, interim_nonfinal rest [] h2⟩

theorem run_nonfinal : ∀ (ops : List Op) (b : Base), b.status = none → (∀ o ∈ ops, o.nonFinal) →
    ∃ i s, Base.run b ops = { b with hdr := ops.foldl applyHdr b.hdr, interim := i, interimSnap := s }
  | [], b, _, _ => ⟨_, _, rfl⟩
  | op :: t, b, hs, h => by
    obtain ⟨ho, ht⟩ := List.forall_mem_cons.mp h
    rw [run_cons]
    cases op with
    | setH _ _ | delH _ => exact run_nonfinal t { b with hdr := _ } hs ht
    | wh c => rw [step_wh_interim hs ho]; exact run_nonfinal t _ hs ht
    | _ => exact ho.elim

/-- header names Helios puts on a response must not collide with the framing headers or with
headers the backend itself sets (assumed: the backend does not produce the ID headers) -/
structure IdsOK (want backend : Hdr) : Prop where
  distinct : Distinct want
  notCL : NoKey want "Content-Length"
  notCT : NoKey want "Content-Type"
  fresh : ∀ kv ∈ want, NoKey backend kv.1

/-- what reaches Helios' server: identifiers, 1xx rounds, the backend's view replayed -/
theorem via_ops_shape (cfg : IdCfg) (ids : Ids) (b : Base)
    (hic : ∀ p ∈ b.interim.zip b.interimSnap, p.1 ≥ 100 ∧ p.1 < 200) (hfin : ¬ (b.view.status ≥ 100 ∧ b.view.status < 200)) :
    viaOps cfg ids b = (setAll (idHdrs cfg ids) ++ rpInterim (idHdrs cfg ids) (b.interim.zip b.interimSnap)) ++
      (setAll b.view.hdr ++ ensureOps (idHdrs cfg ids)
          (setFold (if b.interim.zip b.interimSnap = [] then idHdrs cfg ids else []) b.view.hdr) ++
        [.wh b.view.status] ++ copyPieces b.view.pieces) := by
  simp only [viaOps, transLb_id, rpOps, rpFinal, List.append_assoc, List.singleton_append]
  rw [transId_prefix _ _ _ _ (interim_nonfinal _ _ hic), interim_live,
    transId_prefix _ _ _ _ (setAll_nonfinal _), foldl_setAll, transId_final _ _ _ hfin]
  simp only [List.append_assoc, List.singleton_append]

/-- `live`: Helios' map when the final response starts; `extra`: what `ensureOps` puts back -/
theorem ids_layout (want backend live : Hdr) (hok : IdsOK want backend) (hb : Distinct backend)
    (hl : live = want ∨ live = []) :
    ∃ extra, setAll extra = ensureOps want (setFold live backend) ∧
    Distinct (live ++ backend ++ extra) ∧ (∀ k, NoKey want k → NoKey live k) ∧ (∀ k, NoKey want k → NoKey extra k) ∧
    (∀ kv ∈ want, kv.2 ≠ "" → (live ++ backend ++ extra).get kv.1 = kv.2) := by
  refine ⟨_, rfl, ?_⟩
  generalize he : want.filter _ = extra
  have hwb : Distinct (want ++ backend) := distinct_append.mpr ⟨hok.distinct, hb, hok.fresh⟩
  rcases hl with rfl | rfl
  · -- identifiers are still in the map: nothing is put back
    have hget : ∀ kv ∈ live, (live ++ backend).get kv.1 = kv.2 := fun kv hkv => by
      rw [get_append_left (hok.fresh kv hkv), get_of_mem hok.distinct kv hkv]
    have : extra = [] := by
      rw [← he, setFold_distinct _ _ hwb]
      exact List.filter_eq_nil_iff.mpr fun kv hkv => by
        rw [hget kv hkv, bne, Bool.not_and_self]; exact Bool.false_ne_true
    subst this
    rw [List.append_nil]
    exact ⟨hwb, fun _ hk => hk, fun k _ => nokey_nil k, fun kv hkv _ => hget kv hkv⟩
  · -- an interim round wiped the map: they are put back at the final header
    rw [show setFold [] backend = backend from setFold_distinct backend [] hb] at he
    have hde : Distinct extra := he ▸ distinct_filter hok.distinct
    refine ⟨distinct_append.mpr ⟨hb, hde, fun x hx y hy e => hok.fresh y (List.mem_filter.mp (he ▸ hy)).1 x hx e.symm⟩,
      fun k _ => nokey_nil k, fun k hk => he ▸ nokey_filter hk, fun kv hkv hne => ?_⟩
    rw [List.nil_append, get_append_right (hok.fresh kv hkv)]
    refine get_of_mem hde kv (he ▸ List.mem_filter.mpr ⟨hkv, ?_⟩)
    rw [get_nokey (hok.fresh kv hkv)]
    simpa using hne

/-- **Transparency (responses).** Through Helios the client receives the backend's response:
status, body pieces and framing error as the backend's server sent them, every header not named
like an ID header with the backend's value, every enabled ID header with the identifier in force —
with or without 1xx responses before it — and every body piece flushed as soon as it is written. -/
theorem via_transparent (cfg : IdCfg) (ids : Ids) (head : Bool) (ops : List Op)
    (hno : ∀ o ∈ ops, ∀ body, o ≠ .wgz body)
    (hok : IdsOK (idHdrs cfg ids) (Base.run { head := head } ops).view.hdr) :
    let b := Base.run { head := head } ops
    let c := via cfg ids b
    c.view.status = b.view.status ∧ c.view.pieces = b.view.pieces ∧ c.view.short = b.view.short ∧
    (∀ k, NoKey (idHdrs cfg ids) k → c.view.hdr.get k = b.view.hdr.get k) ∧
    (∀ kv ∈ idHdrs cfg ids, kv.2 ≠ "" → c.view.hdr.get kv.1 = kv.2) ∧
    (∀ n, 1 ≤ n → n ≤ b.view.pieces.length → n ∈ c.flushes) := by
  intro b c
  have hi : Inv b := inv_run ops _ hno (inv_init head)
  have hw : WireOK b.view b.head := wire_of_inv b hi
  have hic : ∀ p ∈ b.interim.zip b.interimSnap, p.1 ≥ 100 ∧ p.1 < 200 := fun p hp => hi.ic p.1 (List.of_mem_zip hp).1
  have hc : c = _ := congrArg (Base.run { head := b.head }) (via_ops_shape cfg ids b hic hw.final)
  generalize idHdrs cfg ids = want at *
  generalize b.interim.zip b.interimSnap = ints at *
  -- Helios' server when the final response starts
  obtain ⟨i, s, hs0⟩ := run_nonfinal (setAll want ++ rpInterim want ints) { head := b.head } rfl
    (List.forall_mem_append.mpr ⟨setAll_nonfinal _, interim_nonfinal _ _ hic⟩)
  rw [List.foldl_append, foldl_setAll, setFold_distinct want [] hok.distinct, List.nil_append, interim_live] at hs0
  rw [run_append, hs0] at hc
  generalize hlive : (if ints = [] then want else []) = live at hc
  obtain ⟨extra, he, hd, hl, hx, hget⟩ := ids_layout want b.view.hdr live hok hw.distinct
    (by rw [← hlive]; by_cases h : ints = []; exact .inl (if_pos h); exact .inr (if_neg h))
  rw [← he] at hc
  rw [hc, replay b.head { head := b.head, hdr := live, interim := i, interimSnap := s } b.view live extra rfl rfl rfl rfl rfl rfl hw hd
    ⟨hl _ hok.notCL, hl _ hok.notCT⟩ ⟨hx _ hok.notCL, hx _ hok.notCT⟩]
  exact ⟨rfl, rfl, rfl, fun k hk => by
    show Hdr.get (_ ++ _ ++ _) k = _
    rw [get_append_left (hx k hk), get_append_right (hl k hk)], hget,
    replay_flushes _ _ _ _ _ rfl rfl rfl rfl rfl hw hd (hl _ hok.notCL) (hx _ hok.notCL)⟩

/-- **The logging plugin is transparent.** Its status recorder forwards every operation; the
explicit 200 it writes before a first body write is what net/http would have done implicitly:
the server ends in the same state. -/
theorem rec_transparent : ∀ (ops : List Op) (r : Rec) (b : Base), Base.run b (transRec r ops) = Base.run b ops
  | [], _, _ => rfl
  | op :: rest, r, b => by
    rw [transRec, run_append, run_cons, rec_transparent rest]
    congr 1
    cases op with
    | w c => obtain ⟨_ | _⟩ := r; exact step_wh200 b (o := .w c) trivial; rfl
    | wgz body => obtain ⟨_ | _⟩ := r; exact step_wh200 b (o := .wgz body) trivial; rfl
    | _ => rfl

/-- **Transparency (requests).** The middleware forwards every request header unchanged except
the configured ID headers; a supplied non-blank identifier is forwarded as it is, a missing or
blank one is replaced by the generated identifier, a disabled feature touches nothing. -/
theorem request_preserved (cfg : IdCfg) (gen : Ids) (h : Hdr) :
    (∀ k, k ≠ cfg.reqName → k ≠ cfg.traceName → (fwdHdr cfg gen h).get k = h.get k) ∧
    (cfg.reqName ≠ cfg.traceName →
      (fwdHdr cfg gen h).get cfg.reqName =
        (if cfg.reqOn && blank (h.get cfg.reqName) then gen.req else h.get cfg.reqName) ∧
      (fwdHdr cfg gen h).get cfg.traceName =
        (if cfg.traceOn && blank (h.get cfg.traceName) then gen.trace else h.get cfg.traceName)) := by
  have other : ∀ (m : Hdr) (c : Bool) (k v j : String), k ≠ j → (if c then m.set k v else m).get j = m.get j :=
    fun m c k v j hj => by cases c <;> simp [get_set, hj]
  have self : ∀ (m : Hdr) (c : Bool) (k v : String), (if c then m.set k v else m).get k = if c then v else m.get k :=
    fun m c k v => by cases c <;> simp [get_set]
  refine ⟨fun k h1 h2 => ?_, fun hne => ⟨?_, ?_⟩⟩ <;> simp only [fwdHdr]
  · rw [other _ _ _ _ _ (Ne.symm h2), other _ _ _ _ _ (Ne.symm h1)]
  · rw [other _ _ _ _ _ (Ne.symm hne), self]
  · rw [self, other _ _ _ _ _ hne]

private def cfg2 : IdCfg := { reqOn := true, traceOn := true }
private def ids2 : Ids := { req := "abc", trace := "trace_00" }
/-- 103 Early Hints, then 200 with a 5-byte body in two pieces -/
private def script : List Op :=
  [.setH "Link" "</s.css>", .wh 103, .setH "Content-Type" "text/plain", .wh 200, .w (2, 1), .fl, .w (3, 3)]

example : IdsOK (idHdrs cfg2 ids2) (Base.run { head := false } script).view.hdr := by
  have hv : (Base.run { head := false } script).view.hdr = [("Link", "</s.css>"), ("Content-Type", "text/plain")] := rfl
  rw [hv]
  exact ⟨⟨by decide, by decide, trivial⟩, by unfold NoKey; decide, by unfold NoKey; decide, by unfold NoKey; decide⟩

/-- evaluated: the identifiers survive the 103 round; both pieces are flushed -/
example : ((via cfg2 ids2 (Base.run { head := false } script)).view.hdr.get "X-Request-Id",
           (via cfg2 ids2 (Base.run { head := false } script)).view.status,
           (via cfg2 ids2 (Base.run { head := false } script)).interim,
           (via cfg2 ids2 (Base.run { head := false } script)).flushes) = ("abc", 200, [103], [1, 2]) := by
  decide +kernel

end Helios.Proxy
