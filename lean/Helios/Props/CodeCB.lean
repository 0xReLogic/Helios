import Helios.Lemmas.Go
import Helios.Model.Breaker
/-
Tie C, circuit breaker (C07, C08): `setState`, `beforeRequest` and `afterRequest` of
internal/circuitbreaker/circuitbreaker.go compute what `CB.begin` and `CB.end_` compute, through `absCB`.
Trusted: unbounded integers, one `time.Now()` per call, the critical section as one atomic step.
-/
namespace Helios.CodeTie
open Helios.Generated

/-- 0, 1, 2 are Go's `StateClosed`, `StateOpen`, `StateHalfOpen`; `WF` excludes anything else -/
def stOf (i : Int) : CB.St := if i = 1 then .open_ else if i = 2 then .halfOpen else .closed

def cfgOf (g : Code.CircuitBreaker) : CB.Cfg :=
  { maxRequests := g.maxRequests, interval := g.interval.toNat, timeout := g.timeout.toNat,
    failureThreshold := g.failureThreshold, successThreshold := g.successThreshold }

/-- the breaker fields the model keeps (`lastSuccessTime`, `onStateChange` with the queued notifications and the name
are not part of the admission logic). `lastFailureTime = 0` is Go's zero time, the model's `none`; `afterRequest` stores
`now` there, hence `0 < now` in `afterRequest_refines` (`beforeRequest_refines` does not use it). -/
def absCB (g : Code.CircuitBreaker) : CB.State :=
  { st := stOf g.state, failureCount := g.failureCount, successCount := g.successCount,
    requestCount := g.requestCount,
    lastFailure := if g.lastFailureTime = 0 then none else some g.lastFailureTime.toNat,
    nextAttempt := g.nextAttempt.toNat, generation := g.generation }

/-- what the constructor and the translated functions produce -/
def WF (g : Code.CircuitBreaker) : Prop :=
  (g.state = 0 ∨ g.state = 1 ∨ g.state = 2) ∧ 0 ≤ g.interval ∧ 0 ≤ g.timeout ∧
  0 ≤ g.lastFailureTime ∧ 0 ≤ g.nextAttempt

/-- an error is known by the name of its package-level variable; any other error reads as `none` -/
def admitOf (r : Nat × Option (String × List String)) : Option CB.Admit :=
  match r.2 with
  | none => some (.admitted r.1)
  | some ("ErrCircuitBreakerOpen", _) => some .rejectedOpen
  | some ("ErrTooManyRequests", _) => some .tooMany
  | some _ => none

theorem setState_spec (g : Code.CircuitBreaker) (s : Int) :
    (Code.setState g s).state = s ∧
    (Code.setState g s).generation = (if g.state = s then g.generation else g.generation + 1) ∧
    (Code.setState g s).failureCount = g.failureCount ∧ (Code.setState g s).successCount = g.successCount ∧
    (Code.setState g s).requestCount = g.requestCount ∧ (Code.setState g s).lastFailureTime = g.lastFailureTime ∧
    (Code.setState g s).nextAttempt = g.nextAttempt ∧ (Code.setState g s).maxRequests = g.maxRequests ∧
    (Code.setState g s).interval = g.interval ∧ (Code.setState g s).timeout = g.timeout ∧
    (Code.setState g s).failureThreshold = g.failureThreshold ∧
    (Code.setState g s).successThreshold = g.successThreshold := by
  unfold Code.setState
  by_cases h : g.state = s
  · simp [h]
  · cases g.onStateChange <;> simp [h]

section
-- simp reads `setState_spec` as one rule per field: `setState` stays folded
attribute [local simp] Code.beforeRequest Code.afterRequest setState_spec CB.begin CB.end_ CB.needsReset absCB stOf cfgOf admitOf WF

theorem beforeRequest_refines (g : Code.CircuitBreaker) (now : Int) (hw : WF g) (hn : 0 < now) :
    absCB (Code.beforeRequest g now).1 = (CB.begin (cfgOf g) (absCB g) now.toNat).1 ∧
    admitOf (Code.beforeRequest g now).2 = some (CB.begin (cfgOf g) (absCB g) now.toNat).2 ∧
    WF (Code.beforeRequest g now).1 ∧ cfgOf (Code.beforeRequest g now).1 = cfgOf g := by
  obtain ⟨hst, hi, ht, hlf, hna⟩ := hw
  rcases hst with h | h | h
  · by_cases c1 : g.lastFailureTime = 0
    · simp [*]
    · have e : g.lastFailureTime.toNat + g.interval.toNat < now.toNat ↔ g.lastFailureTime + g.interval < now :=
        Int.toNat_add hlf hi ▸ toNat_lt_toNat (Int.add_nonneg hlf hi)
      by_cases c2 : g.lastFailureTime + g.interval < now <;> simp [*]
  · have e : g.nextAttempt.toNat < now.toNat ↔ g.nextAttempt < now := toNat_lt_toNat hna
    by_cases c1 : g.nextAttempt < now
    · by_cases c2 : g.maxRequests = 0
      · simp [*]
      · -- also as `0 < maxRequests`, in case the Go text tests that
        have := Nat.pos_of_ne_zero c2
        simp [*]
    · simp [*]
  · rcases le_cases g.maxRequests g.requestCount with ⟨c, c'⟩ | ⟨c, c'⟩ <;> simp [*]

theorem afterRequest_refines (g : Code.CircuitBreaker) (gen : Nat) (ok : Bool) (now : Int) (hw : WF g) (hn : 0 < now) :
    absCB (Code.afterRequest g gen ok now) = CB.end_ (cfgOf g) (absCB g) gen ok now.toNat ∧
    WF (Code.afterRequest g gen ok now) ∧ cfgOf (Code.afterRequest g gen ok now) = cfgOf g := by
  obtain ⟨hst, hi, ht, hlf, hna⟩ := hw
  have hn0 : now ≠ 0 := Int.ne_of_gt hn
  have hn' := Int.le_of_lt hn
  have hnt := Int.add_nonneg hn' ht
  have e := Int.toNat_add hn' ht
  by_cases hg : gen = g.generation
  · subst hg
    cases ok
    · rcases hst with h | h | h
      · rcases le_cases g.failureThreshold (g.failureCount + 1) with ⟨c, c'⟩ | ⟨c, c'⟩ <;> simp [*]
      · simp [*]
      · simp [*]
    · rcases hst with h | h | h
      · simp [*]
      · simp [*]
      · rcases le_cases g.successThreshold (g.successCount + 1) with ⟨c, c'⟩ | ⟨c, c'⟩ <;> simp [*]
  · simp [*]
end

theorem translation_clean_cb :
    ["setState", "beforeRequest", "afterRequest"].all (fun f => Code.translated.contains f) = true ∧
    (Code.translationProblems.filter (fun p => ["setState", "beforeRequest", "afterRequest"].contains p.1)) = [] := by
  decide +kernel

example : WF { name := "b", maxRequests := 1, interval := 60000000000, timeout := 1000000000, failureThreshold := 2,
               successThreshold := 1, onStateChange := true, state := 0, failureCount := 0, successCount := 0,
               requestCount := 0, lastFailureTime := 0, lastSuccessTime := 0, nextAttempt := 0, generation := 0,
               pendingChanges := [] } := by simp [WF]

end Helios.CodeTie
