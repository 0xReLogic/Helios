import Helios.Lemmas.LBFrame
/-
C02 — Failover: only healthy backends are used; 503 only when none is healthy.
Statements are about `LB.begin` (ServeHTTP up to the backend call), for every strategy, pool and
state of health, rotation, gauges, running weights, limiter and breaker; completeness under `Guard`.
-/
namespace Helios.LB

theorem strat_sound (y : Sys) (now : Nat) (key : Bytes) (i : Nat) (h : (y.strat.next now key).2 = some i) :
    ∃ o, y.pool[i]? = some o ∧ o.b.eligible now = true := by
  obtain ⟨b, hb, he⟩ := next_sound y.strat now key i h
  rw [strat_pool, List.getElem?_map] at hb
  obtain ⟨o, hy, rfl⟩ := Option.map_eq_some_iff.mp hb
  exact ⟨o, hy, he⟩

theorem isHealthyAt_eligible (y : Sys) (i now : Nat) (o : Obj) (ho : y.pool[i]? = some o)
    (he : o.b.eligible now = true) : (isHealthyAt y i now).2 = true := by
  rw [isHealthyAt_eq y i now o ho]
  by_cases hh : o.b.healthy = true
  · rw [if_pos hh]
  · rw [if_neg hh, if_pos (expired_of_eligible (Bool.eq_false_iff.2 hh) he)]

/-- one pick suffices: `findHealthyBackend` returns what the strategy's first pick returns -/
theorem findBackend_first (y : Sys) (now : Nat) (key : Bytes) {fuel : Nat} (hf : fuel ≠ 0) :
    (findBackend y now key fuel).2 = (y.strat.next now key).2 := by
  obtain ⟨fuel, rfl⟩ := Nat.exists_eq_succ_of_ne_zero hf
  rw [findBackend_succ]
  cases hr : (y.strat.next now key).2 with
  | none => rfl
  | some i =>
    -- after the strategy's pool is written back, slot `i` is as eligible as before
    obtain ⟨o, ho, he⟩ := (eligibleAt_congr (pick_pool_map (fun o => o.b.eligible now) (fun _ _ => rfl) y now key) i).mpr
      (strat_sound y now key i hr)
    simp [isHealthyAt_eligible _ i now o ho he]

theorem dispatch_result (y : Sys) (gen : Option Nat) (tid now : Nat) (r : Addr.Req) :
    ((dispatch y gen tid now r).2 = .noBackend ∧ (y.strat.next now (Addr.strategyKey r)).2 = none) ∨
    ∃ o ∈ y.pool, (dispatch y gen tid now r).2 = .fwd o.b.name ∧ o.b.eligible now = true := by
  have hfirst := findBackend_first y now (Addr.strategyKey r) (fuel := retryBudget) (by decide)
  rcases dispatch_cases y gen tid now r rfl with ⟨hn, _, e⟩ | ⟨i, o', hi, ho', e⟩ <;> rw [e]
  · exact .inl ⟨rfl, hfirst.symm.trans hn⟩
  · -- slot `i` of `y.pool` is what the strategy chose, and it keeps its name
    obtain ⟨o, hy, he⟩ := strat_sound y now _ i (hfirst.symm.trans hi)
    have hm := congrArg (·[i]?) <| findBackend_ind (P := fun y' => y'.pool.map (·.b.name) = y.pool.map (·.b.name)) now
      (Addr.strategyKey r) (fun y' h => (pick_pool_map _ (fun _ _ => rfl) y' now _).trans h)
      (fun y' i o h ho => (show (heal y' i o).pool.map _ = _ from map_set_of_eq _ ho rfl).trans h) retryBudget y rfl
    simp only [List.getElem?_map, ho', hy, Option.map_some, Option.some.injEq] at hm
    exact .inr ⟨o, List.mem_of_getElem? hy, congrArg _ hm, he⟩

theorem begin_result (y : Sys) (tid now : Nat) (r : Addr.Req) :
    ((begin y tid now r).2 = .limited ∨ (begin y tid now r).2 = .cbOpen ∨ (begin y tid now r).2 = .cbTooMany) ∨
    ((begin y tid now r).2 = .noBackend ∧ (y.strat.next now (Addr.strategyKey r)).2 = none) ∨
    ∃ o ∈ y.pool, (begin y tid now r).2 = .fwd o.b.name ∧ o.b.eligible now = true := by
  obtain ⟨_, _, _, _, _, _, h⟩ | ⟨rl, cb, gen, e⟩ := begin_cases y tid now r
  · exact .inl h
  · exact .inr (e ▸ dispatch_result { y with total := y.total + 1, rl := rl, cb := cb } gen tid now r)

/-- **Dispatch soundness.** A request is forwarded only to a configured backend that is
not inside an unhealthy window at the moment of dispatch. -/
theorem dispatch_sound (y : Sys) (tid now : Nat) (r : Addr.Req) (name : String)
    (h : (begin y tid now r).2 = .fwd name) :
    ∃ o ∈ y.pool, o.b.name = name ∧ o.b.inWindow now = false := by
  obtain hr | ⟨hn, _⟩ | ⟨o, ho, hf, he⟩ := begin_result y tid now r
  · rcases hr with hr | hr | hr <;> cases hr.symm.trans h
  · cases hn.symm.trans h
  · exact ⟨o, ho, Begun.fwd.inj (hf.symm.trans h), by simpa [eligible_eq_not_inWindow] using he⟩

/-- **Dispatch completeness.** "No healthy backend" (503) is answered only if every configured
backend is inside an unhealthy window at that moment, under every strategy (under `Guard`). -/
theorem dispatch_complete (y : Sys) (tid now : Nat) (r : Addr.Req) (hg : Guard y.strat)
    (h : (begin y tid now r).2 = .noBackend) :
    ∀ o ∈ y.pool, o.b.inWindow now = true := by
  obtain hr | ⟨_, hnone⟩ | ⟨_, _, hf, _⟩ := begin_result y tid now r
  · rcases hr with hr | hr | hr <;> cases hr.symm.trans h
  · have hall := next_complete y.strat now (Addr.strategyKey r) hg hnone
    exact fun o ho => by simpa [eligible_eq_not_inWindow] using hall o.b (List.mem_map_of_mem ho)
  · cases hf.symm.trans h

/-- An ejected backend never makes requests fail while another backend is healthy. -/
theorem no_503_while_healthy (y : Sys) (tid now : Nat) (r : Addr.Req) (hg : Guard y.strat)
    (o : Obj) (ho : o ∈ y.pool) (hh : o.b.inWindow now = false) :
    (begin y tid now r).2 ≠ .noBackend := by
  intro h
  have := dispatch_complete y tid now r hg h o ho
  rw [hh] at this; cases this

/-! ### non-vacuity: witnesses of the repaired defects -/

private def mk (n : String) (h : Bool) (u : Option Nat) (c : Int) : Backend :=
  { name := n, weight := 1, healthy := h, until_ := u, conns := c, cw := 0 }
private def hc0 : HC := { passive := false, threshold := 1, ejectFor := 1 }

/-- least_connections: idle ejected A, busy healthy B → B -/
example : (begin { kind := .lc, hc := hc0, pool := [⟨0, mk "A" false (some 100) 0⟩, ⟨1, mk "B" true none 1⟩] }
    1 50 { xff := [], xri := [], remote := [] }).2 = .fwd "B" := rfl
/-- round_robin: three adjacent ejected out of four → the healthy one -/
example : (begin { kind := .rr, hc := hc0, pool := [⟨0, mk "A" true none 0⟩, ⟨1, mk "B" false (some 100) 0⟩,
      ⟨2, mk "C" false (some 100) 0⟩, ⟨3, mk "D" false (some 100) 0⟩] }
    1 50 { xff := [], xri := [], remote := [] }).2 = .fwd "A" := rfl
/-- all ejected → 503; window elapsed → served again (weighted_round_robin) -/
example : (begin { kind := .wrr, hc := hc0, pool := [⟨0, mk "A" false (some 100) 0⟩] }
    1 100 { xff := [], xri := [], remote := [] }).2 = .noBackend := rfl
example : (begin { kind := .wrr, hc := hc0, pool := [⟨0, mk "A" false (some 100) 0⟩] }
    1 101 { xff := [], xri := [], remote := [] }).2 = .fwd "A" := rfl

end Helios.LB
