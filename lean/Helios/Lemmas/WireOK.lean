import Helios.Lemmas.Replay
/-
C01: whatever a handler does to a net/http ResponseWriter, what the server puts on the wire is a well-formed wire
response (`WireOK`, defined in Lemmas/Replay as the hypothesis of `replay`). `Inv` is the invariant of `Base.step` it
follows from.
-/
namespace Helios.Proxy
open Http

/- `hd nb pre`: no body for HEAD, under a bodiless status, before the commit. `le bound`: the body sent is within the
bytes offered to Write and the declared length. `ic il`: the 1xx responses. -/
structure Inv (b : Base) : Prop where
  dh : Distinct b.hdr
  ds : Distinct b.snap
  fin : ∀ s, b.status = some s → ¬ (s ≥ 100 ∧ s < 200)
  raw : ∀ p ∈ b.pieces, ∃ c : Chunk, p = .raw c ∧ c.1 ≠ 0
  hd : b.head = true → b.pieces = []
  nb : ∀ s, b.status = some s → bodyAllowed s = false → b.pieces = []
  pre : b.status = none → b.pieces = []
  decl : ∀ s, b.status = some s → b.declared = parseNat? (b.snap.get "Content-Length")
  le : sumLen b.pieces ≤ b.written
  bound : ∀ n, b.declared = some n → sumLen b.pieces ≤ n
  gz : b.gzOpaque = 0
  ic : ∀ c ∈ b.interim, c ≥ 100 ∧ c < 200
  il : b.interim.length = b.interimSnap.length

theorem inv_init (head : Bool) : Inv { head := head } := by
  constructor <;> simp [Distinct, sumLen]

theorem inv_commit (b : Base) (c : Nat) (hc : ¬ (c ≥ 100 ∧ c < 200)) (h : Inv b) : Inv (b.commit c) := by
  cases hs : b.status with
  | some s => rw [commit_some hs]; exact h
  | none =>
    rw [commit_none hs]
    have hp : b.pieces = [] := h.pre hs
    exact { h with
      ds := h.dh
      fin := fun s e => Option.some.inj e ▸ hc
      nb := fun _ _ _ => hp
      pre := nofun
      decl := fun _ _ => rfl
      bound := fun n _ => hp ▸ Nat.zero_le n }

theorem inv_step (b : Base) (o : Op) (ho : ∀ body, o ≠ .wgz body) (h : Inv b) : Inv (b.step o) := by
  have hc := inv_commit b 200 (by decide) h
  cases o with
  | setH k v => show Inv { b with hdr := _ }; exact { h with dh := distinct_set h.dh }
  | delH k => show Inv { b with hdr := _ }; exact { h with dh := distinct_del h.dh }
  | wgz body => exact absurd rfl (ho body)
  | wh c =>
    by_cases hi : c ≥ 100 ∧ c < 200
    · cases hs : b.status with
      | some s => rw [step_wh_some hs]; exact h
      | none =>
        rw [step_wh_interim hs hi]
        exact { h with
          ic := List.forall_mem_append.mpr ⟨h.ic, List.forall_mem_singleton.mpr hi⟩
          il := by simp [h.il] }
    · rw [step_wh_final b hi]; exact inv_commit b c hi h
  | fl => show Inv { b.commit 200 with flushes := _ }; exact { hc with }
  | w c =>
    refine step_w_ind b c (fun w hw => ?_) ?_
    · exact { hc with le := Nat.le_trans hc.le hw }
    · rintro hz ⟨s, hs, hba⟩ hh hok
      have hsum : sumLen ((b.commit 200).pieces ++ [.raw c]) = sumLen (b.commit 200).pieces + c.1 := by
        rw [sumLen_append, sumLen_single]
      exact { hc with
        raw := List.forall_mem_append.mpr ⟨hc.raw, List.forall_mem_singleton.mpr ⟨c, rfl, hz⟩⟩
        hd := fun e => nomatch hh ▸ e
        nb := fun s' e1 e2 => by cases hs.symm.trans e1; rw [hba] at e2; cases e2
        pre := fun e => nomatch hs.symm.trans e
        le := by rw [hsum]; exact Nat.add_le_add_right hc.le _
        bound := fun n hn => by rw [hsum]; exact Nat.le_trans (Nat.add_le_add_right hc.le _) (hok n hn) }

theorem inv_run : ∀ (ops : List Op) (b : Base), (∀ o ∈ ops, ∀ body, o ≠ .wgz body) → Inv b → Inv (Base.run b ops) :=
  fun ops _ hno h => List.foldlRecOn ops Base.step h fun b hb o ho => inv_step b o (hno o ho) hb

theorem wire_of_inv (b : Base) (h : Inv b) : WireOK b.view b.head := by
  -- the view is that of the response with its implicit 200 written out
  have hf := inv_commit b 200 (by decide) h
  obtain ⟨st, hst⟩ := commit_status b 200
  rw [show b.view = (b.commit 200).view by unfold Base.view Base.finish; rw [commit_commit], ← commit_head b 200]
  generalize b.commit 200 = f at hf hst
  have hnb : bodyAllowed st = false → f.pieces = [] := hf.nb st hst
  have hdecl := hf.decl st hst
  rw [view_committed hst]
  generalize hH : (if st = 304 then _ else _ : Hdr) = H
  -- headers are suppressed only on two bodiless statuses
  have hsup : Distinct H ∧ (bodyAllowed st = true → H = f.snap) ∧
      (st = 304 → NoKey H "Content-Type" ∧ NoKey H "Content-Length") ∧ (st = 204 → NoKey H "Content-Length") := by
    rw [← hH]
    by_cases h3 : st = 304
    · rw [if_pos h3]
      exact ⟨distinct_del (distinct_del hf.ds), fun hb => absurd (h3 ▸ hb) (by decide),
        fun _ => ⟨nokey_filter nokey_del_self, nokey_del_self⟩, fun e => absurd (h3 ▸ e) (by decide)⟩
    rw [if_neg h3]
    by_cases h2 : st = 204
    · rw [if_pos h2]
      exact ⟨distinct_del hf.ds, fun hb => absurd (h2 ▸ hb) (by decide), fun e => absurd e h3, fun _ => nokey_del_self⟩
    · rw [if_neg h2]; exact ⟨hf.ds, fun _ => rfl, fun e => absurd e h3, fun e => absurd e h2⟩
  obtain ⟨hdist, key, h304, h204⟩ := hsup
  refine ⟨hdist, hf.fin st hst, hf.raw, fun hor => hor.elim hf.hd hnb, fun n hn => ?_, ?_, h304, h204⟩
  · cases hb : bodyAllowed st with
    | false => rw [hnb hb]; exact Nat.zero_le n
    | true => exact hf.bound n (by rw [hdecl, ← key hb]; exact hn)
  · show (match f.declared with | some d => _ | none => _) = _
    cases hb : bodyAllowed st with
    | false => cases f.declared <;> cases parseNat? _ <;> rfl
    | true =>
      rw [key hb, ← hdecl, hf.gz]
      cases f.declared <;> simp [sumLen] <;> rfl

theorem wire_ok (head : Bool) (ops : List Op) (hno : ∀ o ∈ ops, ∀ body, o ≠ .wgz body) :
    WireOK (Base.run { head := head } ops).view head := by
  have := wire_of_inv _ (inv_run ops { head := head } hno (inv_init head))
  rwa [run_head] at this

end Helios.Proxy
