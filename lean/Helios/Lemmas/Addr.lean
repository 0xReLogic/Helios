import Helios.Model.Addr
/- What `Addr.splitHost` returns on the two forms of RemoteAddr; C06's `key_ignores_port` rests on the
plain one only. Not part of Tie C. -/
namespace Helios.Bytes

theorem indexOf_none_iff (c : UInt8) (s : Bytes) : indexOf c s = none ↔ c ∉ s := by
  induction s with
  | nil => simp [indexOf]
  | cons b bs ih =>
    rw [indexOf, List.mem_cons, not_or, ← ih]
    by_cases h : b = c
    · simp [h]
    · simp [h, Ne.symm h]

theorem contains_false_iff (c : UInt8) (s : Bytes) : contains c s = false ↔ c ∉ s := by
  simp [contains, ← indexOf_none_iff]

theorem lastIndexOf_none_iff (c : UInt8) (s : Bytes) : lastIndexOf c s = none ↔ c ∉ s := by
  induction s with
  | nil => simp [lastIndexOf]
  | cons b bs ih =>
    rw [lastIndexOf, List.mem_cons, not_or, ← ih]
    cases lastIndexOf c bs <;> simp [eq_comm]

theorem lastIndexOf_append_cons (c : UInt8) (h p : Bytes) (hp : c ∉ p) :
    lastIndexOf c (h ++ c :: p) = some h.length := by
  induction h with
  | nil => simp [lastIndexOf, (lastIndexOf_none_iff c p).mpr hp]
  | cons b bs ih => simp [lastIndexOf, ih]

theorem indexOf_append_cons (c : UInt8) (h p : Bytes) (hh : c ∉ h) :
    indexOf c (h ++ c :: p) = some h.length := by
  induction h with
  | nil => simp [indexOf]
  | cons b bs ih =>
    simp only [List.mem_cons, not_or] at hh
    have : ¬ b = c := fun e => hh.1 e.symm
    simp [indexOf, this, ih hh.2]

end Helios.Bytes

namespace Helios.Addr
open Helios.Bytes

/-- `host:port`, the IPv4 / hostname form of RemoteAddr -/
theorem splitHost_plain (h p : Bytes)
    (h1 : colon ∉ h) (h2 : lbrack ∉ h) (h3 : rbrack ∉ h)
    (p1 : colon ∉ p) (p2 : lbrack ∉ p) (p3 : rbrack ∉ p) :
    splitHost (h ++ colon :: p) = some h := by
  have m2 : lbrack ∉ h ++ colon :: p := by simp +decide [h2, p2]
  have m3 : rbrack ∉ h ++ colon :: p := by simp +decide [h3, p3]
  unfold splitHost
  rw [lastIndexOf_append_cons colon h p p1]
  cases hhp : h ++ colon :: p with
  | nil => simp at hhp
  | cons c0 rest =>
    have hc0 : c0 ≠ lbrack := fun e => m2 (by rw [hhp, e]; exact List.mem_cons_self)
    simp only [hc0, if_false]
    rw [← hhp]
    simp [(contains_false_iff _ _).mpr, h1, m2, m3]

/-- `[host]:port`, the IPv6 form of RemoteAddr -/
theorem splitHost_bracket (h p : Bytes)
    (h2 : lbrack ∉ h) (h3 : rbrack ∉ h)
    (p1 : colon ∉ p) (p2 : lbrack ∉ p) (p3 : rbrack ∉ p) :
    splitHost (lbrack :: (h ++ rbrack :: colon :: p)) = some h := by
  -- cut at the last colon and at the first `]`
  have l1 := lastIndexOf_append_cons colon (lbrack :: h ++ [rbrack]) p p1
  have l2 := indexOf_append_cons rbrack (lbrack :: h) (colon :: p)
    (by simp +decide [h3])
  simp only [List.cons_append, List.append_assoc, List.length_cons, List.length_append, List.length_nil,
    List.nil_append, Nat.zero_add] at l1 l2
  have m2 : lbrack ∉ h ++ rbrack :: colon :: p := by simp +decide [h2, p2]
  have m3 : rbrack ∉ colon :: p := by simp +decide [p3]
  unfold splitHost
  rw [l1]
  simp [l2, (contains_false_iff _ _).mpr, m2, m3]

end Helios.Addr
