import Helios.Model.Strategy
import Helios.Lemmas.Jump
/-
Who the five strategies choose: a chosen slot holds an eligible backend (sound), and nobody is chosen
only when nobody is eligible (complete). Round robin and least connections are complete only under a
guard, so each has a pair `_sound` / `_complete` (`lcPick_spec` adds minimality); the weighted and
the two hash strategies need none and have both facts as one conjunction (`wrrPickCore_spec`,
`ipHash(C)Pick_spec`). `next_sound`, `next_complete` (under `Guard`) collect them. Each scan
(`lcScan_spec`, `wrrBest_spec`) returns its accumulator or a slot it found. Also here: `eligibleIdx`,
`normWeight`, and that a step writes no field of a backend but `cw` (`_map` lemmas).
-/
namespace Helios.LB

theorem eligibleIdx_mem (pool : List Backend) (now i : Nat) :
    i ∈ eligibleIdx pool now ↔ ∃ b, pool[i]? = some b ∧ b.eligible now = true := by
  simp only [eligibleIdx, List.mem_filter, List.mem_range]
  cases h : pool[i]? with
  | none => simp
  | some b => simpa using fun _ => (List.getElem?_eq_some_iff.mp h).1

theorem eligibleIdx_eq_nil (pool : List Backend) (now : Nat) :
    eligibleIdx pool now = [] ↔ ∀ b ∈ pool, b.eligible now = false := by
  simp only [List.eq_nil_iff_forall_not_mem, eligibleIdx_mem, not_exists, not_and, Bool.not_eq_true]
  simp only [List.mem_iff_getElem?, forall_exists_index]
  exact forall_comm

theorem eligibleIdx_append (pool : List Backend) (b : Backend) (now : Nat) :
    eligibleIdx (pool ++ [b]) now =
      eligibleIdx pool now ++ (if b.eligible now then [pool.length] else []) := by
  rw [eligibleIdx, eligibleIdx, List.length_append, List.length_singleton, List.range_succ, List.filter_append,
    List.filter_cons, List.getElem?_concat_length]
  congr 1
  exact List.filter_congr fun i hi => by rw [List.getElem?_append_left (List.mem_range.mp hi)]

theorem eligible_eq_not_inWindow (b : Backend) (now : Nat) :
    b.eligible now = !b.inWindow now := by
  simp only [Backend.eligible, Backend.inWindow]
  cases b.healthy <;> cases b.until_ <;> simp [← Nat.not_le]

theorem eligibleAt_congr {α : Type} {p : α → Bool} {l l' : List α} (h : l.map p = l'.map p)
    (i : Nat) : (∃ b, l[i]? = some b ∧ p b = true) ↔ ∃ b, l'[i]? = some b ∧ p b = true := by
  simp only [← Option.map_eq_some_iff, ← List.getElem?_map, h]

theorem allEligible_congr {l l' : List Backend} {now : Nat} (h : l.map (·.eligible now) = l'.map (·.eligible now))
    (e : Bool) : (∀ b ∈ l, b.eligible now = e) ↔ ∀ b ∈ l', b.eligible now = e := by
  rw [← List.forall_mem_map (P := (· = e)), h, List.forall_mem_map]

theorem rrLoop_sound (pool : List Backend) (now fuel cur i : Nat) (h : (rrLoop pool now fuel cur).2 = some i) :
    ∃ b, pool[i]? = some b ∧ b.eligible now = true := by
  fun_induction rrLoop pool now fuel cur with
  | case1 => cases h
  | case2 _ _ _ _ b hb he => exact Option.some.inj h ▸ ⟨b, hb, he⟩
  | case3 _ _ _ _ _ _ _ ih => exact ih h
  | case4 => cases h

theorem rrLoop_succ (pool : List Backend) (now fuel cur : Nat) (hn : 0 < pool.length) (hw : cur + 1 < two64) :
    rrLoop pool now (fuel + 1) cur =
      if (pool[(cur + 1) % pool.length]'(Nat.mod_lt _ hn)).eligible now then (cur + 1, some ((cur + 1) % pool.length))
      else rrLoop pool now fuel (cur + 1) := by
  rw [rrLoop, Nat.mod_eq_of_lt hw, List.getElem?_eq_getElem (Nat.mod_lt _ hn)]

theorem rrLoop_none (pool : List Backend) (now : Nat) (hn : 0 < pool.length) (fuel : Nat) : ∀ (cur : Nat),
    cur + fuel < two64 → (rrLoop pool now fuel cur).2 = none →
    (rrLoop pool now fuel cur).1 = cur + fuel ∧
    ∀ t, cur < t → t ≤ cur + fuel → (pool[t % pool.length]'(Nat.mod_lt _ hn)).eligible now = false := by
  induction fuel with
  | zero => intro cur _ _; exact ⟨rfl, fun t h1 h2 => absurd h1 (Nat.not_lt.mpr h2)⟩
  | succ f ih =>
    intro cur hw h
    simp only [← Nat.add_assoc, Nat.add_right_comm cur f 1] at hw ⊢
    rw [rrLoop_succ pool now f cur hn (Nat.lt_of_le_of_lt (Nat.le_add_right ..) hw)] at h ⊢
    split at h
    · cases h
    · rename_i he
      rw [if_neg he]
      obtain ⟨h1, h2⟩ := ih (cur + 1) hw h
      refine ⟨h1, fun t t1 t2 => ?_⟩
      obtain rfl | t1 := Nat.eq_or_lt_of_le t1
      · simpa using he
      · exact h2 t t1 t2

theorem residues_cover (c n j : Nat) (hj : j < n) : ∃ t, 1 ≤ t ∧ t ≤ n ∧ (c + t) % n = j := by
  have hn : 0 < n := Nat.zero_lt_of_lt hj
  refine ⟨(j + n - (c + 1) % n) % n + 1, Nat.succ_pos _, Nat.mod_lt _ hn, ?_⟩
  rw [← Nat.add_assoc, Nat.add_right_comm, Nat.add_mod_mod, ← Nat.mod_add_mod,
    Nat.add_sub_cancel' (Nat.le_trans (Nat.le_of_lt (Nat.mod_lt _ hn)) (Nat.le_add_left ..)), Nat.add_mod_right,
    Nat.mod_eq_of_lt hj]

theorem rrPick_sound (pool : List Backend) (now cur i : Nat) (h : (rrPick pool now cur).2 = some i) :
    ∃ b, pool[i]? = some b ∧ b.eligible now = true := by
  revert h
  fun_cases rrPick pool now cur with
  | case1 => nofun
  | case2 => exact rrLoop_sound pool now _ cur i

theorem rrPick_complete (pool : List Backend) (now cur : Nat) (hw : cur + pool.length < two64)
    (h : (rrPick pool now cur).2 = none) : ∀ b ∈ pool, b.eligible now = false := by
  intro b hb
  obtain ⟨j, hj, rfl⟩ := List.getElem_of_mem hb
  have hn : 0 < pool.length := Nat.zero_lt_of_lt hj
  simp only [rrPick, if_neg (Nat.ne_of_gt hn)] at h
  obtain ⟨t, t1, t2, ht⟩ := residues_cover cur pool.length j hj
  simpa only [ht] using (rrLoop_none pool now hn _ cur hw h).2 _ (Nat.lt_add_of_pos_right t1) (Nat.add_le_add_left t2 _)

theorem lcScan_spec (now : Nat) (l : List Backend) (i : Nat) (mn : Int) (sel : Option Nat) :
    (lcScan now l i mn sel = sel ∧ ∀ b ∈ l, b.eligible now = true → mn ≤ b.conns) ∨
    ∃ r b, lcScan now l i mn sel = some r ∧ (b, r) ∈ l.zipIdx i ∧ b.eligible now = true ∧ b.conns < mn ∧
      ∀ b' ∈ l, b'.eligible now = true → b.conns ≤ b'.conns := by
  fun_induction lcScan now l i mn sel with
  | case1 _ mn sel => exact .inl ⟨rfl, List.forall_mem_nil _⟩
  | case2 b bs i mn sel hb ih =>
    rw [Bool.and_eq_true, decide_eq_true_eq] at hb
    refine .inr ?_
    obtain ⟨h1, h2⟩ | ⟨r, b', h1, h2, h3, h4, h5⟩ := ih
    · exact ⟨i, b, h1, List.mem_cons_self, hb.1, hb.2, List.forall_mem_cons.mpr ⟨fun _ => Int.le_refl _, h2⟩⟩
    · exact ⟨r, b', h1, List.mem_cons_of_mem _ h2, h3, Int.lt_trans h4 hb.2,
        List.forall_mem_cons.mpr ⟨fun _ => Int.le_of_lt h4, h5⟩⟩
  | case3 b bs i mn sel hb ih =>
    rw [Bool.and_eq_true, decide_eq_true_eq] at hb
    have hb' : b.eligible now = true → mn ≤ b.conns := fun he => Int.not_lt.mp fun h => hb ⟨he, h⟩
    obtain ⟨h1, h2⟩ | ⟨r, b', h1, h2, h3, h4, h5⟩ := ih
    · exact .inl ⟨h1, List.forall_mem_cons.mpr ⟨hb', h2⟩⟩
    · exact .inr ⟨r, b', h1, List.mem_cons_of_mem _ h2, h3, h4,
        List.forall_mem_cons.mpr ⟨fun he => Int.le_trans (Int.le_of_lt h4) (hb' he), h5⟩⟩

theorem lcPick_spec (pool : List Backend) (now : Nat) :
    (∀ r, lcPick pool now = some r →
        ∃ b, pool[r]? = some b ∧ b.eligible now = true ∧
          ∀ b' ∈ pool, b'.eligible now = true → b.conns ≤ b'.conns) ∧
    (lcPick pool now = none → ∀ b' ∈ pool, b'.eligible now = true → maxInt32 ≤ b'.conns) := by
  obtain ⟨h1, h2⟩ | ⟨k, b, h1, h2, h3, _, h5⟩ := lcScan_spec now pool 0 maxInt32 none
  · exact ⟨fun _ h => (nomatch h1.symm.trans h), fun _ => h2⟩
  · exact ⟨fun r h => Option.some.inj (h1.symm.trans h) ▸ ⟨b, List.mem_zipIdx_iff_getElem?.mp h2, h3, h5⟩,
      fun h => nomatch h1.symm.trans h⟩

theorem lcPick_sound (pool : List Backend) (now i : Nat) (h : lcPick pool now = some i) :
    ∃ b, pool[i]? = some b ∧ b.eligible now = true :=
  let ⟨b, h1, h2, _⟩ := (lcPick_spec pool now).1 i h
  ⟨b, h1, h2⟩

theorem lcPick_complete (pool : List Backend) (now : Nat) (hg : ∀ b ∈ pool, b.conns < maxInt32)
    (h : lcPick pool now = none) : ∀ b ∈ pool, b.eligible now = false := by
  intro b hb
  cases he : b.eligible now with
  | false => rfl
  | true => exact absurd ((lcPick_spec pool now).2 h b hb he) (Int.not_le.mpr (hg b hb))

theorem wrrBest_spec (now : Nat) (l : List Backend) (i : Nat) (acc : Option (Nat × Int)) :
    (wrrBest now l i acc = acc ∧ (acc = none → ∀ b ∈ l, b.eligible now = false)) ∨
    ∃ p b, wrrBest now l i acc = some p ∧ (b, p.1) ∈ l.zipIdx i ∧ b.eligible now = true := by
  fun_induction wrrBest now l i acc with
  | case1 => exact .inl ⟨rfl, fun _ => List.forall_mem_nil _⟩
  | case2 b _ _ hb ih | case3 b _ _ hb _ _ _ ih =>
    obtain ⟨h, _⟩ | ⟨p, b', h, hm, he⟩ := ih
    · exact .inr ⟨_, b, h, List.mem_cons_self, hb⟩
    · exact .inr ⟨p, b', h, List.mem_cons_of_mem _ hm, he⟩
  | case4 _ _ _ _ _ _ _ ih =>
    obtain ⟨h, _⟩ | ⟨p, b', h, hm, he⟩ := ih
    · exact .inl ⟨h, nofun⟩
    · exact .inr ⟨p, b', h, List.mem_cons_of_mem _ hm, he⟩
  | case5 _ _ _ _ hb ih =>
    obtain ⟨h, hn⟩ | ⟨p, b', h, hm, he⟩ := ih
    · exact .inl ⟨h, fun e => List.forall_mem_cons.mpr ⟨Bool.eq_false_iff.mpr hb, hn e⟩⟩
    · exact .inr ⟨p, b', h, List.mem_cons_of_mem _ hm, he⟩

/-! `g` below is any reading of a backend that does not look at `cw` (eligibility, the name, the
health fields). -/

theorem map_modify_of_comp {α β : Type} (g : α → β) (f : α → α) (h : ∀ a, g (f a) = g a) (l : List α) (i : Nat) :
    (l.modify i f).map g = l.map g := by
  induction l generalizing i with
  | nil => simp
  | cons a l ih => cases i <;> simp [h, ih]

section frame
variable {β : Type} (g : Backend → β) (hg : ∀ (b : Backend) (c : Int), g { b with cw := c } = g b)
include hg

theorem wrrBump_map (pool : List Backend) (now : Nat) : (wrrBump pool now).map g = pool.map g := by
  rw [wrrBump, List.map_map]
  refine List.map_congr_left fun b _ => ?_
  rw [Function.comp, apply_ite g, hg, ite_self]

theorem wrrReset_map (pool : List Backend) (ids lastEl : List Nat) (now : Nat) :
    (wrrReset pool ids lastEl now).map g = pool.map g := by
  fun_cases wrrReset pool ids lastEl now with
  | case1 => rfl
  | case2 => rw [List.map_map]; exact List.map_congr_left fun b _ => hg ..

theorem wrrPickCore_map (pool : List Backend) (now : Nat) : (wrrPickCore pool now).1.map g = pool.map g := by
  fun_cases wrrPickCore pool now with
  | case1 => exact wrrBump_map g hg pool now
  | case2 => exact (map_modify_of_comp g _ (fun _ => hg ..) ..).trans (wrrBump_map g hg pool now)

theorem next_map (s : Strat) (now : Nat) (key : Bytes) : (s.next now key).1.pool.map g = s.pool.map g := by
  fun_cases Strat.next s now key with
  | case1 | case2 | case3 | case5 | case6 => rfl
  | case4 => exact (wrrPickCore_map g hg ..).trans (wrrReset_map g hg ..)

end frame

/-- stated against any pool with the same eligibility flags as the one selected on -/
theorem wrrPickCore_spec {pool pool' : List Backend} (now : Nat)
    (hp : pool'.map (·.eligible now) = pool.map (·.eligible now)) :
    (∀ i, (wrrPickCore pool' now).2 = some i → ∃ b, pool[i]? = some b ∧ b.eligible now = true) ∧
    ((wrrPickCore pool' now).2 = none → ∀ b ∈ pool, b.eligible now = false) := by
  have hf := (wrrBump_map (·.eligible now) (fun _ _ => rfl) pool' now).trans hp
  obtain ⟨h, hn⟩ | ⟨⟨i, c⟩, b, h, hm, he⟩ := wrrBest_spec now (wrrBump pool' now) 0 none <;> simp only [wrrPickCore, h]
  · exact ⟨nofun, fun _ => (allEligible_congr hf false).mp (hn rfl)⟩
  · refine ⟨fun _ hi => (eligibleAt_congr hf _).mp ?_, nofun⟩
    cases hi
    exact ⟨b, List.mem_zipIdx_iff_getElem?.mp hm, he⟩

/-- the guard of the two hash picks is redundant -/
theorem guard_getElem? {α : Type} (l : List α) (k : Nat) : (if l.length = 0 then none else l[k]?) = l[k]? := by
  cases l <;> rfl

theorem idxPick_spec (pool : List Backend) (now idx : Nat)
    (hidx : 0 < (eligibleIdx pool now).length → idx < (eligibleIdx pool now).length) :
    (∀ i, (eligibleIdx pool now)[idx]? = some i → ∃ b, pool[i]? = some b ∧ b.eligible now = true) ∧
    ((eligibleIdx pool now)[idx]? = none → ∀ b ∈ pool, b.eligible now = false) := by
  refine ⟨fun i h => (eligibleIdx_mem pool now i).mp (List.mem_of_getElem? h), fun h => ?_⟩
  refine (eligibleIdx_eq_nil pool now).mp (List.eq_nil_of_length_eq_zero (Nat.eq_zero_of_not_pos fun hp => ?_))
  exact Nat.not_lt.mpr (List.getElem?_eq_none_iff.mp h) (hidx hp)

theorem ipHashPick_spec (pool : List Backend) (now : Nat) (key : Bytes) :
    (∀ i, ipHashPick pool now key = some i → ∃ b, pool[i]? = some b ∧ b.eligible now = true) ∧
    (ipHashPick pool now key = none → ∀ b ∈ pool, b.eligible now = false) := by
  rw [ipHashPick, guard_getElem?]
  exact idxPick_spec pool now _ (Nat.mod_lt _)

theorem ipHashCPick_spec (pool : List Backend) (now : Nat) (key : Bytes) :
    (∀ i, ipHashCPick pool now key = some i → ∃ b, pool[i]? = some b ∧ b.eligible now = true) ∧
    (ipHashCPick pool now key = none → ∀ b ∈ pool, b.eligible now = false) := by
  rw [ipHashCPick, guard_getElem?]
  exact idxPick_spec pool now _ (Hash.jump_toNat_lt _ _)

/-- guards under which a `none` from the strategy means "nobody eligible". `rr`: no wrap-around of the
64-bit rotation counter within one turn (Go needs none: its second loop, which `rrPick` lacks, looks at
every slot again without the counter). `lc`: gauges below MaxInt32, where the scan's strict `<` starts. -/
def Guard (s : Strat) : Prop :=
  (s.kind = .rr → s.cur + s.pool.length < two64) ∧
  (s.kind = .lc → ∀ b ∈ s.pool, b.conns < maxInt32)

theorem next_sound (s : Strat) (now : Nat) (key : Bytes) (i : Nat)
    (h : (s.next now key).2 = some i) : ∃ b, s.pool[i]? = some b ∧ b.eligible now = true := by
  revert h
  fun_cases Strat.next s now key with
  | case1 => exact rrPick_sound s.pool now s.cur i
  | case2 => exact lcPick_sound s.pool now i
  | case3 => nofun
  -- `dsimp only` takes the `.2` of the pair: left to `exact`, unification opens the pick first
  | case4 => dsimp only; exact (wrrPickCore_spec now (wrrReset_map _ (fun _ _ => rfl) ..)).1 i
  | case5 => dsimp only; exact (ipHashPick_spec s.pool now key).1 i
  | case6 => dsimp only; exact (ipHashCPick_spec s.pool now key).1 i

theorem next_complete (s : Strat) (now : Nat) (key : Bytes) (hg : Guard s)
    (h : (s.next now key).2 = none) : ∀ b ∈ s.pool, b.eligible now = false := by
  revert h
  fun_cases Strat.next s now key with
  | case1 hk => exact rrPick_complete s.pool now s.cur (hg.1 hk)
  | case2 hk => exact lcPick_complete s.pool now (hg.2 hk)
  | case3 _ h0 => exact fun _ b hb => nomatch List.length_eq_zero_iff.mp h0 ▸ hb
  | case4 => dsimp only; exact (wrrPickCore_spec now (wrrReset_map _ (fun _ _ => rfl) ..)).2
  | case5 => dsimp only; exact (ipHashPick_spec s.pool now key).2
  | case6 => dsimp only; exact (ipHashCPick_spec s.pool now key).2

/-- the normalisation of `AddBackend` -/
def normWeight (w : Int) : Nat := if w < 1 then 1 else w.toNat

end Helios.LB
