import Helios.Model.Http
/-
Shared facts about Model/Http: equations of `Base` (`step_fl`, `step_w_push`: committed state only), three classes of `Op`,
the left fold behind `Body.len`, `Proxy.sumLen` and `opsLen`; `Body.len_*`, `Gz.commit_exceeded` serve CodeRW.
-/
namespace Helios.Http

theorem foldl_add_eq_sum {α : Type} (f : α → Nat) (l : List α) : l.foldl (fun a x => a + f x) 0 = (l.map f).sum := by
  rw [List.sum_eq_foldl_nat, List.foldl_map]

theorem foldl_add_cons {α : Type} (f : α → Nat) (x : α) (l : List α) :
    (x :: l).foldl (fun a x => a + f x) 0 = f x + l.foldl (fun a x => a + f x) 0 := by
  rw [foldl_add_eq_sum, foldl_add_eq_sum, List.map_cons, List.sum_cons]

theorem foldl_add_append {α : Type} (f : α → Nat) (a b : List α) :
    (a ++ b).foldl (fun a x => a + f x) 0 = a.foldl (fun a x => a + f x) 0 + b.foldl (fun a x => a + f x) 0 := by
  rw [foldl_add_eq_sum, foldl_add_eq_sum, foldl_add_eq_sum, List.map_append, List.sum_append]

theorem Body.len_cons (c : Chunk) (b : Body) : Body.len (c :: b) = c.1 + Body.len b :=
  foldl_add_cons (fun x : Chunk => x.1) c b

theorem Body.len_append (b : Body) (c : Chunk) : Body.len (b ++ [c]) = Body.len b + c.1 :=
  (foldl_add_append (fun x : Chunk => x.1) b [c]).trans (congrArg _ (Nat.zero_add _))

theorem Gz.commit_exceeded (g : Gz) : ({ g with bufferExceeded := true } : Gz).commit =
    (g.commit.1, { g.commit.2 with bufferExceeded := true }) := by
  obtain ⟨_, _, _, _, _, _, _, _ | _⟩ := g <;> rfl

theorem run_append (b : Base) (x y : List Op) : Base.run b (x ++ y) = Base.run (Base.run b x) y :=
  List.foldl_append

theorem run_cons (b : Base) (o : Op) (y : List Op) : Base.run b (o :: y) = Base.run (b.step o) y := rfl

theorem run_nil (b : Base) : Base.run b [] = b := rfl

theorem commit_some {b : Base} {s : Nat} (h : b.status = some s) (c : Nat) : b.commit c = b := by
  simp only [Base.commit, h]

theorem commit_none {b : Base} (h : b.status = none) (c : Nat) :
    b.commit c = { b with status := some c, snap := b.hdr, declared := parseNat? (b.hdr.get "Content-Length") } := by
  simp only [Base.commit, h]

theorem commit_frame (b : Base) (c : Nat) :
    ∃ s h d, b.commit c = { b with status := some s, snap := h, declared := d } := by
  cases hs : b.status with
  | some s => exact ⟨s, b.snap, b.declared, by rw [commit_some hs, ← hs]⟩
  | none => exact ⟨_, _, _, commit_none hs c⟩

theorem commit_status (b : Base) (c : Nat) : ∃ s, (b.commit c).status = some s := by
  obtain ⟨s, _, _, e⟩ := commit_frame b c
  exact ⟨s, by rw [e]⟩

theorem commit_head (b : Base) (c : Nat) : (b.commit c).head = b.head := by
  obtain ⟨_, _, _, e⟩ := commit_frame b c
  rw [e]

theorem commit_commit (b : Base) (c d : Nat) : (b.commit c).commit d = b.commit c := by
  obtain ⟨s, h, e, hc⟩ := commit_frame b c
  exact commit_some (s := s) (by rw [hc]) d

theorem view_committed {f : Base} {st : Nat} (hst : f.status = some st) :
    f.view = { status := st,
               hdr := if st = 304 then (f.snap.del "Content-Type").del "Content-Length"
                      else if st = 204 then f.snap.del "Content-Length" else f.snap,
               pieces := f.pieces,
               short := match f.declared with
                 | some d => bodyAllowed st && !f.head && f.gzOpaque = 0 &&
                             decide ((f.pieces.foldl (fun a p => a + p.rawLen) 0) < d)
                 | none => false } := by
  simp only [Base.view, Base.finish, commit_some hst, hst, Option.getD_some]
  rfl

theorem step_wh_some {b : Base} {s : Nat} (hs : b.status = some s) (c : Nat) : b.step (.wh c) = b := by
  rw [Base.step, hs]; rfl

theorem step_wh_final (b : Base) {c : Nat} (hc : ¬ (c ≥ 100 ∧ c < 200)) : b.step (.wh c) = b.commit c := by
  cases hs : b.status with
  | some s => rw [step_wh_some hs, commit_some hs]
  | none => rw [Base.step, hs, if_neg nofun, if_neg hc]

theorem step_wh_interim {b : Base} {c : Nat} (hs : b.status = none) (hc : c ≥ 100 ∧ c < 200) :
    b.step (.wh c) = { b with interim := b.interim ++ [c], interimSnap := b.interimSnap ++ [b.hdr] } := by
  simp only [Base.step, hs, Option.isSome_none, Bool.false_eq_true, if_false, if_pos hc]

theorem step_fl {b : Base} {s : Nat} (hs : b.status = some s) :
    b.step .fl = { b with flushes := b.flushes ++ [b.pieces.length] } := by
  simp only [Base.step, commit_some hs]

theorem step_w_push {b : Base} {c : Chunk} {s : Nat} (hs : b.status = some s) (hz : c.1 ≠ 0)
    (hba : bodyAllowed s = true) (hh : b.head = false) (hd : ∀ n, b.declared = some n → b.written + c.1 ≤ n) :
    b.step (.w c) = { b with written := b.written + c.1, pieces := b.pieces ++ [.raw c] } := by
  rw [Base.step, commit_some hs, if_neg hz, hs, Option.getD_some, hba, if_neg (by decide), hh, if_neg (by decide)]
  split
  · rw [if_neg (Nat.not_lt.mpr (hd _ ‹_›))]
  · rfl

/-- a Write commits; then it only moves the byte counter or is accepted -/
@[elab_as_elim] theorem step_w_ind (b : Base) (c : Chunk) {P : Base → Prop}
    (skip : ∀ w, (b.commit 200).written ≤ w → P { b.commit 200 with written := w })
    (push : c.1 ≠ 0 → (∃ s, (b.commit 200).status = some s ∧ bodyAllowed s = true) → (b.commit 200).head = false →
      (∀ n, (b.commit 200).declared = some n → (b.commit 200).written + c.1 ≤ n) →
      P { b.commit 200 with written := (b.commit 200).written + c.1, pieces := (b.commit 200).pieces ++ [.raw c] }) :
    P (b.step (.w c)) := by
  obtain ⟨s, hs⟩ := commit_status b 200
  rw [Base.step]
  generalize b.commit 200 = b' at hs skip push
  rw [show b'.status.getD 200 = s by rw [hs]; rfl]
  have same : P b' := skip _ (Nat.le_refl _)
  have more : P { b' with written := b'.written + c.1 } := skip _ (Nat.le_add_right ..)
  by_cases hz : c.1 = 0
  · rwa [if_pos hz]
  by_cases hba : bodyAllowed s = true
  case neg => rwa [if_neg hz, Bool.eq_false_iff.mpr hba]
  rw [if_neg hz, hba, if_neg (by decide)]
  by_cases hh : b'.head = true
  · rw [if_pos hh]; split
    · split <;> exact more
    · exact more
  rw [if_neg hh]
  rw [Bool.not_eq_true] at hh
  split
  · next d hd =>
    by_cases hle : b'.written + c.1 > d
    · rwa [if_pos hle]
    · rw [if_neg hle]
      exact push hz ⟨s, hs, hba⟩ hh (fun n hn => Option.some.inj (hd ▸ hn) ▸ Nat.not_lt.mp hle)
  · next hd => exact push hz ⟨s, hs, hba⟩ hh (fun n hn => nomatch hd ▸ hn)

def Op.isBody : Op → Prop
  | .w _ | .wgz _ | .fl => True
  | _ => False

def Op.isWrite (o : Op) : Prop := o.isBody ∧ o ≠ .fl

def Op.nonFinal : Op → Prop
  | .setH _ _ => True
  | .delH _ => True
  | .wh c => c ≥ 100 ∧ c < 200
  | _ => False

/-- the implicit 200 of a body operation may as well be written out -/
theorem step_wh200 (b : Base) {o : Op} (ho : o.isBody) : (b.step (.wh 200)).step o = b.step o := by
  rw [step_wh_final b (by decide)]
  cases o with
  | fl | wgz _ | w _ => simp only [Base.step, commit_commit]
  | _ => exact ho.elim

theorem step_head (b : Base) (o : Op) : (b.step o).head = b.head := by
  fun_cases Base.step b o <;> first | rfl | exact commit_head b _

theorem run_head : ∀ (ops : List Op) (b : Base), (Base.run b ops).head = b.head
  | [], _ => rfl
  | o :: t, b => by rw [run_cons, run_head t, step_head]

theorem finish_snap (b : Base) : b.finish.snap = if b.status.isSome then b.snap else b.hdr := by
  cases hs : b.status with
  | some s => rw [Base.finish, commit_some hs]; rfl
  | none => rw [Base.finish, commit_none hs]; rfl

theorem finish_snap_step (b : Base) (o : Op) :
    (b.step o).finish.snap = if b.status.isSome then b.snap else applyHdr b.hdr o := by
  obtain ⟨s, hs⟩ := commit_status b 200
  have body {x : Base} (h1 : x.status = some s) (h2 : x.snap = (b.commit 200).snap) :
      x.finish.snap = if b.status.isSome then b.snap else b.hdr := by
    rw [Base.finish, commit_some h1, h2]; exact finish_snap b
  cases o with
  | setH _ _ | delH _ => exact finish_snap _
  | fl => exact body hs rfl
  | wgz _ =>
    rw [Base.step]
    cases bodyAllowed ((b.commit 200).status.getD 200) <;> exact body hs rfl
  | w c => exact step_w_ind b c (fun _ _ => body hs rfl) (fun _ _ _ _ => body hs rfl)
  | wh c =>
    cases hb : b.status with
    | some _ => rw [step_wh_some hb, finish_snap, hb]; rfl
    | none =>
      by_cases hi : c ≥ 100 ∧ c < 200
      · rw [step_wh_interim hb hi, finish_snap]; simp only [hb]; rfl
      · rw [step_wh_final b hi, Base.finish, commit_commit, commit_none hb]; rfl

end Helios.Http
