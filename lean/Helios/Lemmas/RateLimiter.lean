import Helios.Model.RateLimiter
/-
The token bucket seen by one client. What it observes is a run of a one-bucket machine over its own requests and
the cleanup passes (`isolation`): C09's lower bounds are in that vocabulary, and `run1_avail` counts in tokens
(`avail`), needing no invariant, time order or non-zero period. The upper bound is in the history's (`admitted`,
`TimedOps`): `run_phi` counts in time (`credit`, `phi`) and needs the invariant and every op in time order.
-/
namespace Helios.RL

inductive Ev where
  | req (t : Nat)
  | clean (t : Nat)
  deriving Repr, DecidableEq

def step1 (c : Cfg) (ob : Option Bucket) : Ev → Option Bucket × Option Bool
  | .req t => let r := allow1 c ob t; (r.1, some r.2)
  | .clean t => (cleanup1 c ob t, none)

def run1 (c : Cfg) (ob : Option Bucket) : List Ev → Option Bucket × List (Option Bool)
  | [] => (ob, [])
  | e :: es =>
      let r := step1 c ob e
      let rs := run1 c r.1 es
      (rs.1, r.2 :: rs.2)

def reqOuts : List (Option Bool) → List Bool
  | [] => []
  | some b :: os => b :: reqOuts os
  | none :: os => reqOuts os

def proj (k : String) : List Op → List Ev
  | [] => []
  | .allow k' t :: ops => if k' = k then .req t :: proj k ops else proj k ops
  | .cleanup t :: ops => .clean t :: proj k ops

/-- outputs of the ops that concern client `k` (its requests and every cleanup) -/
def outsFor (k : String) : List Op → List (Option Bool) → List (Option Bool)
  | .allow k' _ :: ops, o :: outs => if k' = k then o :: outsFor k ops outs else outsFor k ops outs
  | .cleanup _ :: ops, _ :: outs => none :: outsFor k ops outs
  | _, _ => []

/-- **Isolation.** What client `k` observes (its bucket, the outcome of each of its requests) is a function of
its own requests and the cleanup ticks only. -/
theorem isolation (c : Cfg) (k : String) (m : Map) (ops : List Op) :
    (run c m ops).1 k = (run1 c (m k) (proj k ops)).1 ∧
    outsFor k ops (run c m ops).2 = (run1 c (m k) (proj k ops)).2 := by
  fun_induction proj k ops generalizing m with
  | case1 => simp [run, run1, outsFor]
  | case2 t ops ih => simp only [run, step, if_true, run1, step1, outsFor, Map.set, ih, and_self]
  | case3 k' t ops hk ih => simp only [run, step, hk, if_false, outsFor, Map.set, Ne.symm hk, ih, and_self]
  | case4 t ops ih => simp only [run, step, run1, step1, outsFor, ih, and_self]

theorem req_mem_proj {k : String} {t : Nat} : ∀ {ops : List Op}, .req t ∈ proj k ops → .allow k t ∈ ops := by
  intro ops h
  fun_induction proj k ops with
  | case1 => nomatch h
  | case2 _ _ ih =>
    cases h with
    | head => exact .head _
    | tail _ h => exact .tail _ (ih h)
  | case3 _ _ _ _ ih => exact .tail _ (ih h)
  | case4 _ _ ih => cases h with | tail _ h => exact .tail _ (ih h)

/-- ops are time-ordered and lie in `[lo, hi]` -/
def TimedOps (lo hi : Nat) : List Op → Prop
  | [] => True
  | o :: os => lo ≤ o.time ∧ o.time ≤ hi ∧ TimedOps o.time hi os

theorem TimedOps.lo_le {hi : Nat} {ops : List Op} : ∀ {lo : Nat}, TimedOps lo hi ops → ∀ o ∈ ops, lo ≤ o.time := by
  induction ops with
  | nil => intro _ _ _ ho; nomatch ho
  | cons _ _ ih =>
    intro _ h o ho
    rcases List.mem_cons.1 ho with rfl | ho
    · exact h.1
    · exact Nat.le_trans h.1 (ih h.2.2 o ho)

/-- of the bucket the next request would find, like `phi`: a missing one needs no case of its own -/
def Inv (c : Cfg) (ob : Option Bucket) (now : Nat) : Prop :=
  (bucketOf c ob now).tokens ≤ c.max ∧ (bucketOf c ob now).last ≤ now

/-- what a bucket holds at `t`, in time: a token is worth one period, and so is a period waited -/
def credit (c : Cfg) (b : Bucket) (t : Nat) : Nat := b.tokens * c.refill + (t - b.last)

/-- potential: the credit still to be turned into admissions, capped at what a refill leaves at most
(`credit_refill`): a full bucket and the remainder of a period -/
def phi (c : Cfg) (ob : Option Bucket) (now : Nat) : Nat :=
  min (credit c (bucketOf c ob now) now) (c.max * c.refill + c.refill - 1)

theorem phi_le (c : Cfg) (ob : Option Bucket) (now : Nat) : phi c ob now ≤ c.max * c.refill + c.refill - 1 :=
  Nat.min_le_right ..

theorem le_of_mul_le_pred {a b R : Nat} (hR : 0 < R) (h : a * R ≤ b * R + R - 1) : a ≤ b :=
  Nat.le_of_lt_succ (Nat.lt_of_mul_lt_mul_right (a := R)
    (Nat.succ_mul b R ▸ Nat.lt_of_le_of_lt h (Nat.sub_one_lt (Nat.ne_of_gt (Nat.add_pos_right _ hR)))))

theorem credit_refill (c : Cfg) (hR : 0 < c.refill) (b : Bucket) (t : Nat) (hinv : Inv c (some b) t) :
    credit c (refill c b t) t ≤ credit c b t ∧ credit c (refill c b t) t < c.max * c.refill + c.refill ∧
    Inv c (some (refill c b t)) t := by
  fun_cases refill c b t with
  | case1 =>
    have h1 := Nat.mul_le_mul_right c.refill (Nat.min_le_left (b.tokens + (t - b.last) / c.refill) c.max)
    rw [Nat.add_mul] at h1
    simp only [credit, Nat.sub_self, Nat.add_zero]
    exact ⟨Nat.le_trans h1 (Nat.add_le_add_left (Nat.div_mul_le_self ..) _),
      Nat.lt_of_le_of_lt (Nat.mul_le_mul_right _ (Nat.min_le_right ..)) (Nat.lt_add_of_pos_right hR),
      Nat.min_le_right .., Nat.le_refl _⟩
  | case2 _ h0 =>
    exact ⟨Nat.le_refl _, Nat.add_lt_add_of_le_of_lt (Nat.mul_le_mul_right _ hinv.1)
      (Nat.lt_of_div_eq_zero hR (Nat.eq_zero_of_not_pos h0)), hinv⟩

theorem credit_wait (c : Cfg) (b : Bucket) (now t : Nat) (hl : b.last ≤ now) (ht : now ≤ t) :
    credit c b t = credit c b now + (t - now) := by
  rw [credit, credit, Nat.add_assoc, Nat.add_comm (now - b.last), Nat.sub_add_sub_cancel ht hl]

theorem phi_wait (c : Cfg) (ob : Option Bucket) (now t : Nat) (hinv : Inv c ob now) (ht : now ≤ t) :
    phi c ob t ≤ phi c ob now + (t - now) ∧ Inv c ob t := by
  cases ob with
  | none =>
    simp only [phi, bucketOf, fresh, credit, Nat.sub_self]
    exact ⟨Nat.le_add_right _ _, Nat.le_refl _, Nat.le_refl _⟩
  | some b =>
    simp only [phi, bucketOf, credit_wait c b now t hinv.2 ht, ← Nat.add_min_add_right]
    exact ⟨Nat.le_min.2 ⟨Nat.min_le_left _ _, Nat.le_trans (Nat.min_le_right _ _) (Nat.le_add_right _ _)⟩,
      hinv.1, Nat.le_trans hinv.2 ht⟩

theorem credit_take (c : Cfg) (b : Bucket) (t : Nat) (h : 0 < b.tokens) :
    c.refill + credit c { b with tokens := b.tokens - 1 } t = credit c b t := by
  obtain ⟨n, hn⟩ : ∃ n, b.tokens = n + 1 := ⟨_, (Nat.succ_pred_eq_of_pos h).symm⟩
  simp only [credit, hn, Nat.add_sub_cancel, Nat.succ_mul, Nat.add_comm (n * _), Nat.add_assoc]

theorem spend_phi (c : Cfg) (hR : 0 < c.refill) (b : Bucket) (t : Nat) (hinv : Inv c (some b) t) :
    (spend c b t).2.toNat * c.refill + phi c (some (spend c b t).1) t ≤ phi c (some b) t
    ∧ Inv c (some (spend c b t).1) t := by
  obtain ⟨p1, p2, p3⟩ := credit_refill c hR b t hinv
  have p2 := Nat.le_sub_one_of_lt p2
  fun_cases spend c b t with
  | case1 _ h =>
    refine ⟨?_, Nat.le_trans (Nat.sub_le _ _) p3.1, p3.2⟩
    simp only [phi, bucketOf, Bool.toNat_true, Nat.one_mul]
    refine Nat.le_trans (Nat.add_le_add_left (Nat.min_le_left ..) _) ?_
    rw [credit_take c (refill c b t) t h]
    exact Nat.le_min.2 ⟨p1, p2⟩
  | case2 =>
    refine ⟨?_, p3⟩
    simp only [Bool.toNat_false, Nat.zero_mul, Nat.zero_add]
    exact Nat.le_min.2 ⟨Nat.le_trans (Nat.min_le_left ..) p1, Nat.min_le_right ..⟩

theorem cleanup1_phi (c : Cfg) (ob : Option Bucket) (t : Nat) (hinv : Inv c ob t) :
    phi c (cleanup1 c ob t) t ≤ phi c ob t ∧ Inv c (cleanup1 c ob t) t := by
  fun_cases cleanup1 c ob t with
  | case1 b hd =>
    -- the deleted bucket would have refilled to full: its potential is at least max·R
    simp only [shouldDelete, Bool.and_eq_true, decide_eq_true_eq] at hd
    have h2 := Nat.mul_le_mul_right c.refill hd.2
    rw [Nat.add_mul] at h2
    simp only [phi, bucketOf, fresh, credit, Nat.sub_self]
    exact ⟨Nat.le_min.2 ⟨Nat.le_trans (Nat.min_le_left ..) (Nat.le_trans h2
      (Nat.add_le_add_left (Nat.div_mul_le_self ..) _)), Nat.min_le_right ..⟩, Nat.le_refl _, Nat.le_refl _⟩
  | case2 | case3 => exact ⟨Nat.le_refl _, hinv⟩

theorem admitted_cons (k : String) (op : Op) (o : Option Bool) (ops : List Op) (outs : List (Option Bool)) :
    admitted k (op :: ops) (o :: outs) = admitted k [op] [o] + admitted k ops outs := by
  rcases op with ⟨k', t⟩ | t <;> rcases o with _ | _ | _ <;> simp only [admitted, Nat.add_zero, Nat.zero_add]

theorem admitted_one (k k' : String) (t : Nat) (b : Bool) :
    admitted k [.allow k' t] [some b] = if k' = k then b.toNat else 0 := by
  cases b <;> simp [admitted]

theorem step_phi (c : Cfg) (hR : 0 < c.refill) (k : String) (m : Map) (op : Op) (hinv : Inv c (m k) op.time) :
    admitted k [op] [(step c m op).2] * c.refill + phi c ((step c m op).1 k) op.time ≤ phi c (m k) op.time
    ∧ Inv c ((step c m op).1 k) op.time := by
  cases op with
  | allow k' t =>
    simp only [step, Map.set, admitted_one, Op.time] at hinv ⊢
    by_cases hk : k' = k
    · subst hk
      simp only [if_true, allow1]
      exact spend_phi c hR (bucketOf c (m k') t) t hinv
    · simpa only [if_neg hk, if_neg (Ne.symm hk), Nat.zero_mul, Nat.zero_add] using And.intro (Nat.le_refl _) hinv
  | cleanup t => simpa only [step, admitted, Op.time, Nat.zero_mul, Nat.zero_add] using cleanup1_phi c (m k) t hinv

/-- what was admitted and what is left over were there at the start or came with the time -/
theorem run_phi (c : Cfg) (hR : 0 < c.refill) (k : String) : ∀ (ops : List Op) (m : Map) (now hi : Nat),
    Inv c (m k) now → TimedOps now hi ops → now ≤ hi →
      admitted k ops (run c m ops).2 * c.refill + phi c ((run c m ops).1 k) hi ≤ phi c (m k) now + (hi - now) ∧
      Inv c ((run c m ops).1 k) hi
  | [], m, now, hi, hinv, _, hle => by
    simp only [run, admitted, Nat.zero_mul, Nat.zero_add]
    exact phi_wait c _ now hi hinv hle
  | op :: ops, m, now, hi, hinv, ⟨h1, h2, h3⟩, hle => by
    obtain ⟨hw, hinv⟩ := phi_wait c (m k) now op.time hinv h1
    obtain ⟨hphi, hinv'⟩ := step_phi c hR k m op hinv
    obtain ⟨hrec, hi'⟩ := run_phi c hR k ops (step c m op).1 op.time hi hinv' h3 h2
    refine ⟨?_, hi'⟩
    simp only [run]
    -- by `hrec`, then `hphi` and `hw`; the two waits add up to `hi - now`
    rw [admitted_cons, Nat.add_mul, Nat.add_assoc]
    refine Nat.le_trans (Nat.add_le_add_left hrec _) ?_
    rw [← Nat.add_assoc, ← Nat.sub_add_sub_cancel h2 h1, Nat.add_comm (hi - _), ← Nat.add_assoc]
    exact Nat.add_le_add_right (Nat.le_trans hphi hw) _

theorem run_empty_inv (c : Cfg) (hR : 0 < c.refill) (k : String) (pre : List Op) (t : Nat) (hpre : TimedOps 0 t pre) :
    Inv c ((run c Map.empty pre).1 k) t :=
  (run_phi c hR k pre Map.empty 0 t ⟨Nat.le_refl _, Nat.le_refl _⟩ hpre (Nat.zero_le _)).2


/-- tokens the client could draw at time `t` (after refill); a missing bucket is full -/
def avail (c : Cfg) (ob : Option Bucket) (t : Nat) : Nat :=
  match ob with
  | none => c.max
  | some b => (refill c b t).tokens

theorem avail_eq (c : Cfg) (ob : Option Bucket) (t : Nat) : avail c ob t = (refill c (bucketOf c ob t) t).tokens := by
  cases ob with
  | none => simp [avail, bucketOf, fresh, refill]
  | some b => rfl

theorem le_avail_iff (c : Cfg) (b : Bucket) (t : Nat) {n : Nat} (hn : n ≤ c.max) :
    n ≤ avail c (some b) t ↔ n ≤ b.tokens + (t - b.last) / c.refill := by
  simp only [avail, refill]
  split
  · exact ⟨fun h => Nat.le_trans h (Nat.min_le_left ..), fun h => Nat.le_min.2 ⟨h, hn⟩⟩
  · next h0 => rw [Nat.eq_zero_of_not_pos h0, Nat.add_zero]

theorem avail_idle (c : Cfg) (hR : 0 < c.refill) (b : Bucket) (t n : Nat) (h : b.last + n * c.refill ≤ t) :
    min n c.max ≤ avail c (some b) t :=
  (le_avail_iff c b t (Nat.min_le_right ..)).2 (Nat.le_trans (Nat.min_le_left ..) (Nat.le_trans
    ((Nat.le_div_iff_mul_le hR).2 (Nat.le_sub_of_add_le (Nat.add_comm .. ▸ h))) (Nat.le_add_left ..)))

theorem avail_cleanup (c : Cfg) (ob : Option Bucket) (t te : Nat) {n : Nat} (hn : n ≤ c.max) (h : n ≤ avail c ob t) :
    n ≤ avail c (cleanup1 c ob te) t := by
  fun_cases cleanup1 c ob te with
  | case1 => exact hn
  | case2 | case3 => exact h

/-- without invariant: C03 applies it to whatever bucket a fault history has left -/
theorem allow1_admits (c : Cfg) (ob : Option Bucket) (t : Nat) (h : 0 < avail c ob t) : (allow1 c ob t).2 = true := by
  rw [avail_eq] at h
  simp only [allow1, spend, h, if_true]

theorem avail_spend (c : Cfg) (ob : Option Bucket) (t : Nat) {n : Nat} (hn : n ≤ c.max) (h : n + 1 ≤ avail c ob t) :
    (allow1 c ob t).2 = true ∧ ∀ t', n ≤ avail c (allow1 c ob t).1 t' := by
  refine ⟨allow1_admits c ob t (Nat.lt_of_lt_of_le (Nat.succ_pos n) h), fun t' => ?_⟩
  rw [avail_eq] at h
  simp only [allow1, spend, Nat.lt_of_lt_of_le (Nat.succ_pos n) h, if_true]
  exact (le_avail_iff c _ t' hn).2 (Nat.le_trans (Nat.le_sub_one_of_lt h) (Nat.le_add_right ..))

/-- with `n` tokens available whenever a request comes, the next `n` requests are admitted, whatever their order
and whatever cleanups run in between -/
theorem run1_avail (c : Cfg) : ∀ (evs : List Ev) (ob : Option Bucket) (n : Nat),
    n ≤ c.max → (∀ t, .req t ∈ evs → n ≤ avail c ob t) → ∀ b ∈ (reqOuts (run1 c ob evs).2).take n, b = true
  | [], _, _, _, _ => by simp [run1, reqOuts]
  | .clean te :: es, ob, n, hn, h => by
    simpa only [run1, step1, reqOuts] using run1_avail c es _ n hn fun t ht =>
      avail_cleanup c ob t te hn (h t (List.mem_cons_of_mem _ ht))
  | .req te :: es, ob, 0, _, _ => by simp
  | .req te :: es, ob, n + 1, hn, h => by
    obtain ⟨h1, h2⟩ := avail_spend c ob te (Nat.le_of_succ_le hn) (h te (List.mem_cons_self ..))
    simp only [run1, step1, reqOuts, h1, List.take_succ_cons, List.mem_cons]
    rintro b (rfl | hb)
    · rfl
    · exact run1_avail c es _ n (Nat.le_of_succ_le hn) (fun t _ => h2 t) b hb

end Helios.RL
