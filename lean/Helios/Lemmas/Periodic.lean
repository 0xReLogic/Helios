/- Counting in windows of a periodic sequence: what round robin (`t ↦ t % n`) and smooth weighted
round robin (`WRR.pick`, period Σw) have in common. -/
namespace Helios

theorem count_window {α : Type} [BEq α] (f : Nat → α) (p : Nat) (hper : ∀ k, f (k + p) = f k) (a : α) :
    ∀ s, ((List.range' s p).map f).count a = ((List.range p).map f).count a
  | 0 => by rw [List.range_eq_range']
  | s + 1 => by
    cases p with
    | zero => rfl
    | succ q =>
      -- sliding the window by one drops `f s` and adds `f (s + p)`, which are equal
      rw [← count_window f _ hper a s, List.range'_succ (s := s), List.range'_concat (s := s + 1), Nat.one_mul,
        List.map_cons, List.map_append, List.count_cons, List.count_append,
        Nat.add_assoc s 1 q, Nat.add_comm 1 q]
      simp only [List.map_cons, List.map_nil, List.count_cons, List.count_nil, hper, Nat.zero_add]

theorem count_periods {α : Type} [BEq α] (f : Nat → α) (p : Nat) (hper : ∀ k, f (k + p) = f k) (a : α) (s : Nat) :
    ∀ k, ((List.range' s (p * k)).map f).count a = k * ((List.range p).map f).count a
  | 0 => by simp
  | k + 1 => by
    rw [Nat.mul_succ, ← List.range'_append_1, List.map_append, List.count_append, count_periods f p hper a s k,
      count_window f p hper a, Nat.succ_mul]

end Helios
