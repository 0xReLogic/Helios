import Helios.Model.Proxy
import Helios.Lemmas.Hdr
import Helios.Lemmas.Base
/-
C01: replaying a response that one net/http server put on the wire into another net/http
server reproduces it. `WireOK` is such a response; Lemmas/WireOK shows that `Base` produces only such.
-/
namespace Helios.Proxy
open Http

/-- body bytes carried by plain pieces (the expression `Base.view` uses) -/
def sumLen (ps : List Piece) : Nat :=
  ps.foldl (fun a p => a + p.rawLen) 0

theorem sumLen_cons (p : Piece) (ps : List Piece) : sumLen (p :: ps) = p.rawLen + sumLen ps :=
  foldl_add_cons ..

theorem sumLen_append (a b : List Piece) : sumLen (a ++ b) = sumLen a + sumLen b :=
  foldl_add_append ..

theorem sumLen_single (c : Chunk) : sumLen [.raw c] = c.1 := Nat.zero_add _

/-- a response as one net/http server puts it on the wire -/
structure WireOK (v : View) (head : Bool) : Prop where
  distinct : Distinct v.hdr
  final : ¬ (v.status ≥ 100 ∧ v.status < 200)
  raw : ∀ p ∈ v.pieces, ∃ c : Chunk, p = .raw c ∧ c.1 ≠ 0
  nobody : head = true ∨ bodyAllowed v.status = false → v.pieces = []
  bound : ∀ n, parseNat? (v.hdr.get "Content-Length") = some n → sumLen v.pieces ≤ n
  short : v.short = (match parseNat? (v.hdr.get "Content-Length") with
            | some n => bodyAllowed v.status && !head && decide (sumLen v.pieces < n)
            | none => false)
  s304 : v.status = 304 → NoKey v.hdr "Content-Type" ∧ NoKey v.hdr "Content-Length"
  s204 : v.status = 204 → NoKey v.hdr "Content-Length"

theorem run_setAll : ∀ (h : Hdr) (b : Base), Base.run b (setAll h) = { b with hdr := setFold b.hdr h }
  | [], _ => rfl
  | kv :: t, b => run_setAll t (b.step (.setH kv.1 kv.2))

theorem run_copy : ∀ (ps : List Piece) (t : Base) (st : Nat), t.status = some st →
    (ps ≠ [] → t.head = false ∧ bodyAllowed st = true) →
    (∀ p ∈ ps, ∃ c : Chunk, p = .raw c ∧ c.1 ≠ 0) →
    (∀ n, t.declared = some n → t.written + sumLen ps ≤ n) →
    Base.run t (copyPieces ps) =
      { t with written := t.written + sumLen ps, pieces := t.pieces ++ ps,
               flushes := t.flushes ++ List.range' (t.pieces.length + 1) ps.length }
  | [], t, _, _, _, _, _ => by
    rw [List.append_nil, List.length_nil, List.range'_zero, List.append_nil]; rfl
  | p :: rest, t, st, hs, hnb, hraw, hb => by
    obtain ⟨⟨c, rfl, hc⟩, hraw'⟩ := List.forall_mem_cons.mp hraw
    obtain ⟨hh, hba⟩ := hnb (List.cons_ne_nil _ _)
    rw [sumLen_cons] at hb ⊢
    -- `by exact`: the state `_` is to come from the goal, not from these hypotheses about `t`
    rw [copyPieces, run_cons, run_cons,
      step_w_push hs hc hba hh (fun n hn => Nat.le_trans (Nat.add_le_add_left (Nat.le_add_right ..) _) (hb n hn)),
      step_fl (s := st) (by exact hs), run_copy rest _ st (by exact hs) (fun _ => by exact ⟨hh, hba⟩)
      hraw' (fun n hn => by rw [Nat.add_assoc]; exact hb n hn)]
    simp only [Piece.rawLen, List.length_append, List.length_cons, List.length_nil, List.range'_succ, List.append_assoc,
      List.singleton_append, Nat.add_assoc, Nat.zero_add]

theorem replay_run (head : Bool) (s0 : Base) (v : View) (extra : Hdr)
    (hstat : s0.status = none) (hpieces : s0.pieces = []) (hhead : s0.head = head) (hwritten : s0.written = 0)
    (hv : WireOK v head) (hd : Distinct (s0.hdr ++ v.hdr ++ extra))
    (ha : NoKey s0.hdr "Content-Length") (he : NoKey extra "Content-Length") :
    Base.run s0 (setAll v.hdr ++ setAll extra ++ [.wh v.status] ++ copyPieces v.pieces) =
      { s0 with hdr := s0.hdr ++ v.hdr ++ extra, status := some v.status, snap := s0.hdr ++ v.hdr ++ extra,
                declared := parseNat? (v.hdr.get "Content-Length"), written := sumLen v.pieces,
                pieces := v.pieces, flushes := s0.flushes ++ List.range' 1 v.pieces.length } := by
  have hbody : v.pieces ≠ [] → s0.head = false ∧ bodyAllowed v.status = true := fun hne =>
    ⟨Bool.eq_false_iff.mpr fun hh => hne (hv.nobody (.inl (hhead ▸ hh))),
     (Bool.not_eq_false _).mp fun hb => hne (hv.nobody (.inr hb))⟩
  have hcl : (s0.hdr ++ v.hdr ++ extra).get "Content-Length" = v.hdr.get "Content-Length" := by
    rw [get_append_left he, get_append_right ha]
  rw [run_append, run_append, run_append, run_setAll, run_setAll, setFold_distinct _ _ (distinct_append.mp hd).1,
    setFold_distinct _ _ hd, run_cons, step_wh_final _ hv.final,
    commit_none (b := { s0 with hdr := s0.hdr ++ v.hdr ++ extra }) hstat, hcl,
    run_nil,
    run_copy _ _ v.status rfl (by exact hbody) hv.raw
      (fun n hn => by simp only [hwritten, Nat.zero_add]; exact hv.bound n hn)]
  simp only [hpieces, hwritten, List.nil_append, List.length_nil, Nat.zero_add]

/-- **Replay.** Starting from an uncommitted response with header map `acc`, copying the wire
response `v` (headers, then further headers `extra`, status, body) yields exactly `v` with the
three header groups side by side. -/
theorem replay (head : Bool) (s0 : Base) (v : View) (acc extra : Hdr)
    (h1 : s0.status = none) (h2 : s0.pieces = []) (h3 : s0.gzOpaque = 0) (h4 : s0.head = head)
    (h5 : s0.hdr = acc) (h6 : s0.written = 0)
    (hv : WireOK v head) (hd : Distinct (acc ++ v.hdr ++ extra))
    (ha : NoKey acc "Content-Length" ∧ NoKey acc "Content-Type")
    (he : NoKey extra "Content-Length" ∧ NoKey extra "Content-Type") :
    (Base.run s0 (setAll v.hdr ++ setAll extra ++ [.wh v.status] ++ copyPieces v.pieces)).view =
      { v with hdr := acc ++ v.hdr ++ extra } := by
  subst h5
  have n {k : String} (a : NoKey s0.hdr k) (e : NoKey extra k) (h : NoKey v.hdr k) :
      NoKey (s0.hdr ++ v.hdr ++ extra) k := nokey_append.mpr ⟨nokey_append.mpr ⟨a, h⟩, e⟩
  rw [replay_run head s0 v extra h1 h2 h4 h6 hv hd ha.1 he.1, view_committed (st := v.status) rfl]
  refine View.mk.injEq .. ▸ ⟨rfl, ?_, rfl, ?_⟩
  · -- header suppression is the identity on an already suppressed map
    by_cases h304 : v.status = 304
    · rw [if_pos h304, del_nokey (n ha.2 he.2 (hv.s304 h304).1), del_nokey (n ha.1 he.1 (hv.s304 h304).2)]
    rw [if_neg h304]
    by_cases h204 : v.status = 204
    · rw [if_pos h204, del_nokey (n ha.1 he.1 (hv.s204 h204))]
    · rw [if_neg h204]
  rw [hv.short, h3, h4]
  cases parseNat? (v.hdr.get "Content-Length") with
  | none => rfl
  | some n => simp; rfl

/-- **Streaming.** In the replayed exchange every body piece is followed by a Flush: after the
n-th piece has been written, n pieces are on the wire. -/
theorem replay_flushes (head : Bool) (s0 : Base) (v : View) (acc extra : Hdr)
    (h1 : s0.status = none) (h2 : s0.pieces = []) (h4 : s0.head = head)
    (h5 : s0.hdr = acc) (h6 : s0.written = 0)
    (hv : WireOK v head) (hd : Distinct (acc ++ v.hdr ++ extra))
    (ha : NoKey acc "Content-Length") (he : NoKey extra "Content-Length") :
    ∀ n, 1 ≤ n → n ≤ v.pieces.length →
      n ∈ (Base.run s0 (setAll v.hdr ++ setAll extra ++ [.wh v.status] ++ copyPieces v.pieces)).flushes := by
  intro n hn1 hn2
  subst h5
  rw [replay_run head s0 v extra h1 h2 h4 h6 hv hd ha he]
  exact List.mem_append_right _ (List.mem_range'_1.mpr ⟨hn1, Nat.one_add _ ▸ Nat.lt_succ_of_le hn2⟩)

end Helios.Proxy
