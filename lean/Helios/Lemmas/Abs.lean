import Helios.Lemmas.Go
import Helios.Model.LB
import Helios.Model.Config
/-
The abstraction maps that more than one group of `Props/Code*.lean` reads the translated records through, each with its
lemmas: a backend object, a strategy's slice of them, the configuration. They stand here so that the groups need not
import one another.
-/
namespace Helios.CodeTie
open Helios.Generated

/-- `cw` is the weighted strategy's running weight, which the code keeps outside the backend object; `UnhealthyUntil = 0`
is Go's zero time: no deadline -/
def absBackend (b : Code.Backend) (cw : Int) : LB.Backend :=
  { name := b.Name, weight := b.Weight.toNat, healthy := b.IsHealthy,
    until_ := if b.UnhealthyUntil = 0 then none else some b.UnhealthyUntil.toNat,
    conns := b.ActiveConnections, cw := cw }

section abs
variable (b : Code.Backend) (cw now : Int)

/-- The right side is the body of `Code.eligible` spelt out; the users turn it into `(Code.eligible b now).2` by
definitional equality, so a change to Go's `eligible` shows at those uses, not here. -/
theorem eligible_abs (hu : 0 ≤ b.UnhealthyUntil) : (absBackend b cw).eligible now.toNat =
    (b.IsHealthy || (!(b.UnhealthyUntil == 0) && decide (now > b.UnhealthyUntil))) := by
  unfold LB.Backend.eligible absBackend
  by_cases h : b.UnhealthyUntil = 0 <;> simp [h, beq_false_of_ne, Int.max_eq_left hu]

/-- the zero time is in the past of every instant the code can see (`0 < now`) -/
theorem expired_abs (hu : 0 ≤ b.UnhealthyUntil) (hn : 0 < now) :
    LB.expired (absBackend b cw) now.toNat = decide (now > b.UnhealthyUntil) := by
  unfold LB.expired absBackend
  by_cases h : b.UnhealthyUntil = 0 <;> simp [h, hn, Int.max_eq_left hu]

theorem stillEjected_abs (hu : 0 ≤ b.UnhealthyUntil) (hn : 0 < now) : LB.stillEjected (absBackend b cw) now.toNat =
    (!b.IsHealthy && !decide (now > b.UnhealthyUntil)) := by
  unfold LB.stillEjected absBackend
  by_cases h : b.UnhealthyUntil = 0 <;> simp [h, hn, Int.max_eq_left hu, ← Int.not_lt]

theorem absBackend_heal : absBackend { b with IsHealthy := true } cw = { absBackend b cw with healthy := true } := rfl

/-- `id` is arbitrary: only `.b` of the model's object is read -/
theorem absBackend_eject (id : Nat) (dur : Int) (hn : 0 < now) (hd : 0 ≤ dur) :
    absBackend { b with IsHealthy := false, UnhealthyUntil := now + dur } cw =
      (LB.ejectObj ⟨id, absBackend b cw⟩ now.toNat dur.toNat).b := by
  have hne : now + dur ≠ 0 := Int.ne_of_gt (Int.add_pos_of_pos_of_nonneg hn hd)
  simp only [absBackend, LB.ejectObj, hne, Int.toNat_add (Int.le_of_lt hn) hd, if_false]
end abs

/-- the strategy's slice; running weights play no part -/
def absPool (bs : List Code.Backend) : List LB.Backend := bs.map (absBackend · 0)

def absBackendCfg (b : Code.BackendConfig) : Cfg.Backend := ⟨b.Name, b.Address, b.Weight⟩

/-- reducible, so that a rule of `Cfg.rServer (absCfg g)` … unifies with the code's test on the fields of `g` in `Ret.cons` -/
@[reducible] def absCfg (g : Code.Config) : Cfg.Config :=
  { backends := g.Backends.map absBackendCfg, port := g.Server.Port, tlsOn := g.Server.TLS.Enabled,
    tlsCert := g.Server.TLS.CertFile, tlsKey := g.Server.TLS.KeyFile,
    tRead := g.Server.Timeouts.Read, tWrite := g.Server.Timeouts.Write, tIdle := g.Server.Timeouts.Idle,
    tHandler := g.Server.Timeouts.Handler, tShutdown := g.Server.Timeouts.Shutdown,
    tDial := g.Server.Timeouts.BackendDial, tBRead := g.Server.Timeouts.BackendRead, tBIdle := g.Server.Timeouts.BackendIdle,
    strategy := g.LoadBalancer.Strategy, wsOn := g.LoadBalancer.WebSocketPool.Enabled,
    wsMaxIdle := g.LoadBalancer.WebSocketPool.MaxIdle, wsMaxActive := g.LoadBalancer.WebSocketPool.MaxActive,
    wsIdleTimeout := g.LoadBalancer.WebSocketPool.IdleTimeoutSeconds,
    actOn := g.HealthChecks.Active.Enabled, actInterval := g.HealthChecks.Active.Interval,
    actTimeout := g.HealthChecks.Active.Timeout, actPath := g.HealthChecks.Active.Path,
    pasOn := g.HealthChecks.Passive.Enabled, pasThreshold := g.HealthChecks.Passive.UnhealthyThreshold,
    pasTimeout := g.HealthChecks.Passive.UnhealthyTimeout,
    rlOn := g.RateLimit.Enabled, rlMax := g.RateLimit.MaxTokens, rlRefill := g.RateLimit.RefillRate,
    cbOn := g.CircuitBreaker.Enabled, cbMax := g.CircuitBreaker.MaxRequests, cbInterval := g.CircuitBreaker.IntervalSeconds,
    cbTimeout := g.CircuitBreaker.TimeoutSeconds, cbFailure := g.CircuitBreaker.FailureThreshold,
    cbSuccess := g.CircuitBreaker.SuccessThreshold,
    metOn := g.Metrics.Enabled, metPort := g.Metrics.Port, metPath := g.Metrics.Path,
    admOn := g.AdminAPI.Enabled, admPort := g.AdminAPI.Port,
    logLevel := g.Logging.Level, logFormat := g.Logging.Format }

end Helios.CodeTie
