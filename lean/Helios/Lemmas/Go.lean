import Helios.Generated.Code
/-
What the translator's idioms mean, for `Props/Code*.lean`: slice indexing and `len`, fuel, a test in either spelling,
Go's `int` against the models' `Nat`, and `range` loops.

A Go `for _, x := range l` is translated to a recursive function `f_rangeN` on the list (`N` a fresh-name counter, not
the loop's ordinal), one per loop in the source, so the same loop written in four strategy types gives four functions.
The `range_*` lemmas are therefore about ANY function that satisfies the two defining equations of such a loop; at each
use the equations hold by `rfl`. They cover the loops that return at the first hit or only filter.

`Code.translated` lists Lean names; `Code.translationProblems` is keyed by the Go function's own name, without its
receiver type: hence the two lists of names in a `translation_clean_*`.
-/
namespace Helios.CodeTie
open Helios.Generated

theorem listGet_lt {α : Type} [Inhabited α] (xs : List α) (i : Nat) (h : i < xs.length) : Code.listGet xs i = xs[i] := by
  simp [Code.listGet, h]

/-- with the `int` index of a counting loop -/
theorem listGet_ofNat {α : Type} [Inhabited α] (xs : List α) (i : Nat) (h : i < xs.length) :
    Code.listGet xs (Int.toNat (Int.ofNat i)) = xs[i] :=
  listGet_lt xs i h

theorem mapSet_apply {α : Type} (m : String → α) (k k' : String) (v : α) :
    Code.mapSet m k v k' = if k' = k then v else m k' := rfl

/-- `len(l) == 0` -/
theorem len_beq_zero {α : Type} (l : List α) : (Int.ofNat l.length == (0 : Int)) = l.isEmpty := by
  cases l <;> rfl

/-- `len(l) - 1` as an index -/
theorem toNat_len_pred {α : Type} (l : List α) : Int.toNat ((Int.ofNat l.length) - (1 : Int)) = l.length - 1 :=
  Int.toNat_sub l.length 1

/-- `s[len(s)-1]` -/
theorem listGet_last {α : Type} [Inhabited α] (l : List α) (x : α) :
    Code.listGet (l ++ [x]) (Int.toNat ((Int.ofNat (l ++ [x]).length) - (1 : Int))) = x := by
  rw [toNat_len_pred]; simp [Code.listGet]

/-- `s[:len(s)-1]` -/
theorem take_dropLast {α : Type} (l : List α) : List.take (Int.toNat ((Int.ofNat l.length) - (1 : Int))) l = l.dropLast := by
  rw [toNat_len_pred, List.dropLast_eq_take]

theorem fuel_succ {m fuel : Nat} (h : m < fuel) : ∃ f, fuel = f + 1 :=
  Nat.exists_eq_succ_of_ne_zero (Nat.ne_of_gt (Nat.zero_lt_of_lt h))

/-- a test in both spellings: `simp [*]` decides it whichever the Go text has (a guard clause that returns early
instead of a nested `if` tests the negation, with the branches swapped) -/
theorem le_cases {α : Type} [LE α] [LT α] [DecidableLE α] [Std.IsLinearOrder α] [Std.LawfulOrderLT α] (a b : α) :
    a ≤ b ∧ ¬ b < a ∨ b < a ∧ ¬ a ≤ b :=
  (Decidable.em (a ≤ b)).imp (fun h => ⟨h, Std.not_lt_of_ge h⟩) fun h => ⟨Std.not_le.mp h, h⟩

/-! Go's `int`, `time.Duration` and `time.Time` are `Int` in the translation and `Nat` in the models; the abstraction maps
read them through `Int.toNat`, and the well-formedness predicates say they are not negative. A comparison or a sum is
carried across by rewriting with these and core's `Int.toNat_add`, `Int.toNat_sub''`, `Int.pos_iff_toNat_pos` …:
`omega` splits on the sign under every `toNat` it meets, which is slow. -/

theorem toNat_lt_toNat {a b : Int} (ha : 0 ≤ a) : a.toNat < b.toNat ↔ a < b := by
  rw [Int.lt_toNat, Int.toNat_of_nonneg ha]

/-- Go tests `<= 0` where the value cannot be negative -/
theorem nonpos_iff {v : Int} (h : 0 ≤ v) : v ≤ 0 ↔ v = 0 :=
  ⟨fun h' => Int.le_antisymm h' h, fun e => e ▸ Int.le_refl _⟩

/-- Go's truncating division against the model's: the same number, and 0 on both sides when the clock stepped back -/
theorem tdiv_toNat (a r : Int) (hr : 0 < r) : (Int.tdiv a r).toNat = a.toNat / r.toNat := by
  obtain ⟨m, rfl⟩ := Int.eq_ofNat_of_zero_le (Int.le_of_lt hr)
  cases a with
  | ofNat n => rfl
  | negSucc n => exact (Int.toNat_neg_natCast _).trans (Nat.zero_div _).symm

theorem toNat_min (a b : Int) : (min a b).toNat = min a.toNat b.toNat := by
  rcases Int.le_total a b with h | h
  · rw [Int.min_eq_left h, Nat.min_eq_left (Int.toNat_le_toNat h)]
  · rw [Int.min_eq_right h, Nat.min_eq_right (Int.toNat_le_toNat h)]

/-- a loop that returns at the first `x` with `p x s` and otherwise leaves its variables `s` alone -/
theorem range_first {α σ ρ : Type} (p : α → σ → Bool) (ret : Int → σ → ρ) (loop : List α → Int → σ → Sum ρ σ)
    (h0 : ∀ j s, loop [] j s = .inr s)
    (h1 : ∀ x xs j s, loop (x :: xs) j s = if p x s then .inl (ret j s) else loop xs (j + 1) s)
    (s : σ) (l : List α) (j : Int) :
    loop l j s = match l.findIdx? (p · s) with
      | none => .inr s
      | some k => .inl (ret (j + k) s) := by
  induction l generalizing j with
  | nil => exact h0 j s
  | cons x xs ih =>
    rw [h1, List.findIdx?_cons]
    cases p x s
    · rw [if_neg Bool.false_ne_true, ih, if_neg Bool.false_ne_true]
      cases xs.findIdx? (p · s) with
      | none => rfl
      | some k => simp only [Int.add_assoc, Int.add_comm 1]; rfl
    · simp

/-- a loop without variables that returns `r` at the first `x` with `p x` -/
theorem range_any {α ρ : Type} (p : α → Bool) (r : ρ) (loop : List α → Int → Option ρ)
    (h0 : ∀ j, loop [] j = none)
    (h1 : ∀ x xs j, loop (x :: xs) j = if p x then some r else loop xs (j + 1)) (l : List α) (j : Int) :
    loop l j = if l.any p then some r else none := by
  induction l generalizing j with
  | nil => exact h0 j
  | cons x xs ih => rw [h1, ih, List.any_cons]; cases p x <;> rfl

/-- a loop that appends the elements with `p x` to a slice and never returns -/
theorem range_filter {α ρ : Type} (p : α → Bool) (loop : List α → Int → List α → Sum ρ (List α))
    (h0 : ∀ j acc, loop [] j acc = .inr acc)
    (h1 : ∀ x xs j acc, loop (x :: xs) j acc = loop xs (j + 1) (if p x then acc ++ [x] else acc))
    (l : List α) (j : Int) (acc : List α) : loop l j acc = .inr (acc ++ l.filter p) := by
  induction l generalizing j acc with
  | nil => rw [h0, List.filter_nil, List.append_nil]
  | cons x xs ih => rw [h1, ih, List.filter_cons]; cases p x <;> simp

end Helios.CodeTie
