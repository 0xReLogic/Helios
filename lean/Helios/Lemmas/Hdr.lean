import Helios.Model.Http
/-
Header maps as association lists: what `get` returns after `set`, `del` and `++`, and maps with distinct keys
(`distinct_iff` reads `Distinct` as `List.Pairwise` on the keys, so that core's lemmas do the list work).
-/
namespace Helios.Proxy
open Http

def Distinct : Hdr → Prop
  | [] => True
  | kv :: t => (∀ x ∈ t, x.1 ≠ kv.1) ∧ Distinct t

def NoKey (h : Hdr) (k : String) : Prop := ∀ x ∈ h, x.1 ≠ k

theorem nokey_nil (k : String) : NoKey [] k := fun _ hx => nomatch hx

theorem nokey_single {k v j : String} (hk : k ≠ j) : NoKey [(k, v)] j :=
  fun _ hx => List.mem_singleton.mp hx ▸ hk

theorem nokey_append {a b : Hdr} {k : String} : NoKey (a ++ b) k ↔ NoKey a k ∧ NoKey b k :=
  List.forall_mem_append

theorem nokey_filter {p : String × String → Bool} {h : Hdr} {k : String} (hk : NoKey h k) : NoKey (h.filter p) k :=
  fun x hx => hk x (List.mem_filter.mp hx).1

theorem mem_del {h : Hdr} {k : String} {x : String × String} : x ∈ h.del k ↔ x ∈ h ∧ x.1 ≠ k := by
  simp [Hdr.del]

theorem nokey_del_self {h : Hdr} {k : String} : NoKey (h.del k) k := fun _ hx => (mem_del.mp hx).2

theorem nokey_set {h : Hdr} {k v j : String} (hj : NoKey h j) (hk : k ≠ j) : NoKey (h.set k v) j :=
  nokey_append.mpr ⟨nokey_filter hj, nokey_single hk⟩

theorem NoKey.find? {h : Hdr} {k : String} (hk : NoKey h k) : h.find? (fun x => decide (x.1 = k)) = none :=
  List.find?_eq_none.mpr (fun x hx => by simpa using hk x hx)

theorem get_cons (x : String × String) (t : Hdr) (k : String) :
    Hdr.get (x :: t) k = if x.1 = k then x.2 else Hdr.get t k := by
  simp only [Hdr.get, List.find?_cons]
  by_cases h : x.1 = k <;> simp [h]

theorem get_nokey {h : Hdr} {k : String} (hk : NoKey h k) : h.get k = "" := by
  simp only [Hdr.get, hk.find?]

theorem get_append_left {a b : Hdr} {k : String} (hb : NoKey b k) : (a ++ b).get k = a.get k := by
  simp only [Hdr.get, List.find?_append, hb.find?, Option.or_none]

theorem get_append_right {a b : Hdr} {k : String} (ha : NoKey a k) : (a ++ b).get k = b.get k := by
  simp only [Hdr.get, List.find?_append, ha.find?, Option.none_or]

theorem del_cons (x : String × String) (t : Hdr) (k : String) :
    Hdr.del (x :: t) k = if x.1 = k then Hdr.del t k else x :: Hdr.del t k := by
  by_cases h : x.1 = k <;> simp [Hdr.del, h]

theorem get_del (h : Hdr) (k j : String) : (h.del k).get j = if k = j then "" else h.get j := by
  by_cases e : k = j
  · rw [if_pos e, ← e, get_nokey nokey_del_self]
  rw [if_neg e]
  induction h with
  | nil => rfl
  | cons x t ih =>
    rw [del_cons, get_cons x t]
    by_cases hx : x.1 = k
    · rw [if_pos hx, ih, if_neg (hx ▸ e)]
    · rw [if_neg hx, get_cons, ih]

theorem get_set (h : Hdr) (k v j : String) : (h.set k v).get j = if k = j then v else h.get j := by
  show (h.del k ++ [(k, v)]).get j = _
  by_cases e : k = j
  · rw [if_pos e, ← e, get_append_right nokey_del_self, get_cons, if_pos rfl]
  · rw [if_neg e, get_append_left (nokey_single e), get_del, if_neg e]

theorem del_nokey {h : Hdr} {k : String} (hk : NoKey h k) : h.del k = h :=
  List.filter_eq_self.mpr (fun x hx => by simpa using hk x hx)

theorem set_fresh {h : Hdr} {k v : String} (hk : NoKey h k) : h.set k v = h ++ [(k, v)] := by
  show h.del k ++ _ = _; rw [del_nokey hk]

theorem distinct_iff (h : Hdr) : Distinct h ↔ h.Pairwise (fun a b => b.1 ≠ a.1) := by
  induction h with
  | nil => simp [Distinct]
  | cons x t ih => simp only [Distinct, List.pairwise_cons, ih]

theorem distinct_append {a b : Hdr} : Distinct (a ++ b) ↔ Distinct a ∧ Distinct b ∧ ∀ x ∈ a, NoKey b x.1 := by
  simp only [distinct_iff, List.pairwise_append, NoKey]

theorem distinct_right : ∀ (a b : Hdr), Distinct (a ++ b) → Distinct b :=
  fun _ _ h => (distinct_append.mp h).2.1

theorem distinct_filter {p : String × String → Bool} {h : Hdr} (hd : Distinct h) : Distinct (h.filter p) :=
  (distinct_iff _).mpr (((distinct_iff _).mp hd).filter p)

theorem distinct_del {h : Hdr} {k : String} (hd : Distinct h) : Distinct (h.del k) := distinct_filter hd

theorem distinct_set {h : Hdr} {k v : String} (hd : Distinct h) : Distinct (h.set k v) :=
  distinct_append.mpr ⟨distinct_del hd, ⟨List.forall_mem_nil _, trivial⟩, fun x hx =>
    nokey_single (Ne.symm (nokey_del_self x hx))⟩

theorem get_of_mem : ∀ {h : Hdr}, Distinct h → ∀ kv ∈ h, h.get kv.1 = kv.2
  | [], _ => List.forall_mem_nil _
  | x :: t, hd => List.forall_mem_cons.mpr
    ⟨by rw [get_cons, if_pos rfl], fun kv ht => by rw [get_cons, if_neg (fun e => hd.1 kv ht e.symm), get_of_mem hd.2 kv ht]⟩

def setFold (acc : Hdr) (h : Hdr) : Hdr := h.foldl (fun m kv => m.set kv.1 kv.2) acc

theorem setFold_distinct : ∀ (h acc : Hdr), Distinct (acc ++ h) → setFold acc h = acc ++ h
  | [], acc, _ => (List.append_nil acc).symm
  | kv :: t, acc, hd => by
    have hk : NoKey acc kv.1 := fun x hx e =>
      (distinct_append.mp hd).2.2 x hx kv (List.mem_cons_self ..) e.symm
    show setFold (acc.set kv.1 kv.2) t = _
    rw [set_fresh hk, setFold_distinct t _ (by rwa [List.append_assoc]), List.append_assoc]; rfl

theorem nokey_setFold : ∀ (h : Hdr) {acc : Hdr} {j : String}, NoKey acc j → NoKey h j → NoKey (setFold acc h) j
  | [], _, _, ha, _ => ha
  | _ :: t, _, _, ha, hh =>
    nokey_setFold t (nokey_set ha (List.forall_mem_cons.mp hh).1) (List.forall_mem_cons.mp hh).2

end Helios.Proxy
