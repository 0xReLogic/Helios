import Helios.Model.Hash
/- The integer-division jump consistent hash: range and minimal remapping. -/
namespace Helios.Hash

theorem shift_lt (key : UInt64) : (key >>> 33).toNat < 2147483648 := by
  rw [UInt64.toNat_shiftRight, show (33 : UInt64).toNat % 64 = 33 by decide, Nat.shiftRight_eq_div_pow]
  exact Nat.div_lt_of_lt_mul key.toNat_lt

theorem quo_pos (key : UInt64) : 1 ≤ quo key :=
  Int.le_ediv_of_mul_le (Int.natCast_pos.mpr (Nat.succ_pos _))
    (Int.le_trans (Int.le_of_eq (Int.one_mul _)) (Int.ofNat_le.mpr (shift_lt key)))

theorem quo_le (key : UInt64) : quo key ≤ 2147483648 :=
  Int.ediv_le_self _ (by decide)

theorem step_grows (key : UInt64) (j : Int) (hj : 0 ≤ j) : j + 1 ≤ (j + 1) * quo key :=
  Int.le_trans (Int.le_of_eq (Int.mul_one _).symm) (Int.mul_le_mul_of_nonneg_left (quo_pos key) (Int.le_add_one hj))

theorem loop_succ (f : Nat) (key : UInt64) (b j n : Int) :
    loop (f+1) key b j n =
      if j < n then loop f (nextKey key) j ((j + 1) * quo (nextKey key)) n else b := by
  rw [loop]

theorem loop_of_not_lt {fuel : Nat} {key : UInt64} {b j n : Int} (h : ¬ j < n) : loop fuel key b j n = b := by
  cases fuel with
  | zero => rfl
  | succ f => rw [loop_succ, if_neg h]

/-- lock-step comparison of the loop for `n` and `n+1` buckets; `j` grows every turn (`step_grows`),
so fuel `n + 1 - j` outlasts both -/
theorem loop_mono (fuel : Nat) : ∀ (key : UInt64) (b j : Int) (n : Int), 0 ≤ j → n + 1 ≤ j + fuel →
    loop (fuel+1) key b j (n+1) = loop fuel key b j n ∨ loop (fuel+1) key b j (n+1) = n := by
  induction fuel with
  | zero =>
    intro key b j n hj hf
    exact .inl (loop_of_not_lt (Int.not_lt.mpr (Int.le_trans hf (Int.le_of_eq (Int.add_zero j)))))
  | succ f ih =>
    intro key b j n hj hf
    have hg := step_grows (nextKey key) j hj
    by_cases h1 : j < n
    · rw [loop_succ (f+1) key b j (n+1), loop_succ f key b j n, if_pos h1,
        if_pos (Int.lt_add_one_iff.mpr (Int.le_of_lt h1))]
      exact ih (nextKey key) j ((j + 1) * quo (nextKey key)) n (Int.le_trans (Int.le_add_one hj) hg) (by omega)
    · by_cases h3 : j < n + 1
      · obtain rfl := Int.le_antisymm (Int.lt_add_one_iff.mp h3) (Int.not_lt.mp h1)
        exact .inr (by rw [loop_succ, if_pos h3, loop_of_not_lt (Int.not_lt.mpr hg)])
      · exact .inl (by rw [loop_of_not_lt h3, loop_of_not_lt h1])

theorem jump_monotone (key : UInt64) (n : Nat) :
    jumpHash key (n+1) = jumpHash key n ∨ jumpHash key (n+1) = n :=
  loop_mono (n+1) key (-1) 0 n (Int.le_refl 0) (Int.le_of_eq (Int.zero_add _).symm)

theorem jump_range (key : UInt64) (n : Nat) (hn : 1 ≤ n) :
    0 ≤ jumpHash key n ∧ jumpHash key n < n := by
  obtain ⟨m, rfl⟩ := Nat.exists_eq_add_one.mpr hn
  clear hn
  -- one bucket holds every key, and each further bucket takes keys only to itself
  induction m with
  | zero =>
    rw [jumpHash, loop_succ, if_pos (by decide),
      loop_of_not_lt (n := ((0 + 1 : Nat) : Int)) (Int.not_lt.mpr (step_grows (nextKey key) 0 (Int.le_refl 0)))]
    decide
  | succ m ih =>
    have hm : ((m + 1 : Nat) : Int) < (m + 1 + 1 : Nat) := Int.ofNat_lt.mpr (Nat.lt_succ_self _)
    rcases jump_monotone key (m + 1) with h | h <;> rw [h]
    · exact ⟨ih.1, Int.lt_trans ih.2 hm⟩
    · exact ⟨Int.natCast_nonneg _, hm⟩

theorem jump_toNat_lt (key : UInt64) (n : Nat) (hn : 1 ≤ n) : (jumpHash key n).toNat < n :=
  have h := jump_range key n hn
  (Int.toNat_lt h.1).mpr h.2

end Helios.Hash
