/- A rule list is `(violated?, id)` in validation order. -/
namespace Helios.Cfg

/-- no rule of the list is violated -/
def af (l : List (Bool × Nat)) : Prop := ∀ r ∈ l, r.1 = false

theorem af_nil : af [] := nofun
theorem af_cons (x : Bool) (n : Nat) (l : List (Bool × Nat)) : af ((x, n) :: l) ↔ x = false ∧ af l :=
  List.forall_mem_cons
theorem af_append (a b : List (Bool × Nat)) : af (a ++ b) ↔ af a ∧ af b := List.forall_mem_append

end Helios.Cfg

namespace Helios.CodeTie

/-- first violated rule of a list -/
def fv (l : List (Bool × Nat)) : Option Nat := (l.find? (·.1)).map (·.2)

theorem fv_nil : fv [] = none := rfl
theorem fv_cons (b : Bool) (n : Nat) (l : List (Bool × Nat)) : fv ((b, n) :: l) = if b then some n else fv l := by
  cases b <;> rfl
theorem fv_append (a b : List (Bool × Nat)) : fv (a ++ b) = (fv a).or (fv b) := by
  rw [fv, List.find?_append, Option.map_or]; rfl

theorem fv_eq_none {l : List (Bool × Nat)} : fv l = none ↔ Cfg.af l :=
  Option.map_eq_none_iff.trans <| List.find?_eq_none.trans <| forall₂_congr fun _ _ => Bool.eq_false_iff.symm

theorem fv_eq_some {l : List (Bool × Nat)} {n : Nat} (h : fv l = some n) :
    ∃ pre post, l = pre ++ (true, n) :: post ∧ Cfg.af pre := by
  obtain ⟨⟨b, m⟩, hf, rfl⟩ := Option.map_eq_some_iff.1 h
  obtain ⟨hb, pre, post, rfl, hp⟩ := List.find?_eq_some_iff_append.1 hf
  cases (hb : b = true)
  exact ⟨pre, post, rfl, fun r hr => (Bool.not_eq_true' _).mp (hp r hr)⟩

end Helios.CodeTie
