import Helios.Driver
import Helios.Generated.Code
import Helios.Generated.Facts
import Helios.Generated.Locks
import Helios.Lemmas.Abs
import Helios.Lemmas.Addr
import Helios.Lemmas.Base
import Helios.Lemmas.Go
import Helios.Lemmas.Hdr
import Helios.Lemmas.Jump
import Helios.Lemmas.LBFrame
import Helios.Lemmas.Periodic
import Helios.Lemmas.RateLimiter
import Helios.Lemmas.Replay
import Helios.Lemmas.Rules
import Helios.Lemmas.Strategy
import Helios.Lemmas.WireOK
import Helios.Model.Addr
import Helios.Model.Admin
import Helios.Model.Breaker
import Helios.Model.Bytes
import Helios.Model.Config
import Helios.Model.Hash
import Helios.Model.Http
import Helios.Model.Ids
import Helios.Model.LB
import Helios.Model.LockPolicy
import Helios.Model.Locks
import Helios.Model.Pool
import Helios.Model.Proxy
import Helios.Model.RateLimiter
import Helios.Model.Registry
import Helios.Model.Shutdown
import Helios.Model.Strategy
import Helios.Props.C01
import Helios.Props.C02
import Helios.Props.C03
import Helios.Props.C04
import Helios.Props.C04M
import Helios.Props.C05
import Helios.Props.C05W
import Helios.Props.C06
import Helios.Props.C07
import Helios.Props.C08
import Helios.Props.C09
import Helios.Props.C10
import Helios.Props.C11
import Helios.Props.C12
import Helios.Props.C13
import Helios.Props.C13G
import Helios.Props.C14
import Helios.Props.C15
import Helios.Props.C16
import Helios.Props.C17
import Helios.Props.C18
import Helios.Props.C19
import Helios.Props.C20
import Helios.Props.CodeAddr
import Helios.Props.CodeAdm
import Helios.Props.CodeCB
import Helios.Props.CodeCfg
import Helios.Props.CodeHash
import Helios.Props.CodeHdr
import Helios.Props.CodeLB
import Helios.Props.CodePool
import Helios.Props.CodeRL
import Helios.Props.CodeRW
import Helios.Props.CodeRm
import Helios.Props.CodeSame
import Helios.Props.CodeStrat
import Helios.Props.CodeWire
import Helios.Props.Facts
